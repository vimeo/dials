/-
Helper lemmas for C03: the fuel-driven deep copier of `Model/Heap.lean` is related to a big-step
relation `RunG` (`Run0`: runs on arbitrary heaps, `Run h`: runs that stay inside the well-formed original
heap `h`), on which the frame, freshness, isomorphism and termination arguments are carried out by rule
induction.
-/
import DialsModel.Lemmas.HeapClosed

namespace Dials.Heap

theorem lookup_nil (a : Nat) : lookup [] a = none := rfl

theorem lookup_cons (a b c : Nat) (m : List (Nat × Nat)) :
    lookup ((a, b) :: m) c = if a = c then some b else lookup m c := by
  unfold lookup
  by_cases h : a = c <;> simp [h]

def Ext (m m' : List (Nat × Nat)) : Prop := ∀ a a', lookup m a = some a' → lookup m' a = some a'

theorem Ext.refl (m) : Ext m m := fun _ _ h => h
theorem Ext.trans {m1 m2 m3} (h1 : Ext m1 m2) (h2 : Ext m2 m3) : Ext m1 m3 := fun a a' h => h2 a a' (h1 a a' h)
theorem Ext.cons {m : List (Nat × Nat)} {a b : Nat} (h : lookup m a = none) : Ext m ((a, b) :: m) := by
  intro c c' hc
  rw [lookup_cons]
  split
  · subst_vars; rw [h] at hc; cases hc
  · exact hc

theorem lt_of_getElem? {α} {l : List α} {a : Nat} {c : α} (h : l[a]? = some c) : a < l.length :=
  (List.getElem?_eq_some_iff.mp h).1

@[simp] theorem setCell_length (h : Heap) (a c) : (setCell h a c).length = h.length := by simp [setCell]
@[simp] theorem addEntry_length (h : Heap) (a k v) : (addEntry h a k v).length = h.length := by
  unfold addEntry; split <;> simp
@[simp] theorem setElem_length (h : Heap) (a i v) : (setElem h a i v).length = h.length := by
  unfold setElem; split <;> simp

theorem setCell_ne (h : Heap) {a b : Nat} (c) (hne : b ≠ a) : (setCell h b c)[a]? = h[a]? := by
  simp [setCell, List.getElem?_set_ne hne]
theorem addEntry_ne (h : Heap) {a b : Nat} (k v) (hne : b ≠ a) : (addEntry h b k v)[a]? = h[a]? := by
  unfold addEntry; split <;> simp [List.getElem?_set_ne hne]
theorem setElem_ne (h : Heap) {a b : Nat} (i v) (hne : b ≠ a) : (setElem h b i v)[a]? = h[a]? := by
  unfold setElem; split <;> simp [List.getElem?_set_ne hne]

theorem setCell_eq (h : Heap) {a : Nat} (c) (hlt : a < h.length) : (setCell h a c)[a]? = some c := by
  simp [setCell, List.getElem?_set_self hlt]
theorem addEntry_eq (h : Heap) {a : Nat} {es} (k v) (he : h[a]? = some (.mapc es)) :
    (addEntry h a k v)[a]? = some (.mapc (es ++ [(k, v)])) := by
  unfold addEntry; rw [he]; simp [List.getElem?_set_self (lt_of_getElem? he)]
theorem setElem_eq (h : Heap) {a : Nat} {es} (i v) (he : h[a]? = some (.arr es)) :
    (setElem h a i v)[a]? = some (.arr (es.set i v)) := by
  unfold setElem; rw [he]; simp [List.getElem?_set_self (lt_of_getElem? he)]

def CellsOK (h : Heap) : Prop := ∀ (a : Nat) (c : Cell), h[a]? = some c → okCell h c = true

theorem CellsOK.of_heapOK {h : Heap} (hh : HeapOK h = true) : CellsOK h :=
  fun _ c hc => List.all_eq_true.mp hh c (List.mem_of_getElem? hc)

theorem CellsOK.to_heapOK {h : Heap} (hc : CellsOK h) : HeapOK h = true :=
  List.all_eq_true.mpr fun c hm => (List.mem_iff_getElem?.mp hm).elim fun a ha => hc a c ha

theorem WF_iff {h : Heap} {v : HV} : WF h v = true ↔ okV h v = true ∧ HeapOK h = true := Bool.and_eq_true_iff

theorem okV_ptr {h : Heap} {a} (hk : okV h (.ptr a) = true) : ∃ v, h[a]? = some (.val v) := by
  simp only [okV] at hk; split at hk
  · exact ⟨_, ‹_›⟩
  · cases hk
theorem okV_mp {h : Heap} {a} (hk : okV h (.mp a) = true) : ∃ es, h[a]? = some (.mapc es) := by
  simp only [okV] at hk; split at hk
  · exact ⟨_, ‹_›⟩
  · cases hk
theorem okV_sl {h : Heap} {a len} (hk : okV h (.sl a len) = true) : ∃ es, h[a]? = some (.arr es) := by
  simp only [okV] at hk; split at hk
  · exact ⟨_, ‹_›⟩
  · cases hk

theorem CellsOK.val {h : Heap} (hc : CellsOK h) {a : Nat} {v : HV} (ha : h[a]? = some (.val v)) : okV h v = true :=
  hc a _ ha
theorem CellsOK.mapc {h : Heap} (hc : CellsOK h) {a : Nat} {es : List (HV × HV)} (ha : h[a]? = some (.mapc es)) :
    ∀ p ∈ es, okV h p.1 = true ∧ okV h p.2 = true := by
  simpa only [okCell, List.all_eq_true, Bool.and_eq_true] using hc a _ ha
theorem CellsOK.arr {h : Heap} (hc : CellsOK h) {a : Nat} {es : List HV} (ha : h[a]? = some (.arr es)) :
    ∀ v ∈ es, okV h v = true := by
  simpa only [okCell, List.all_eq_true] using hc a _ ha

theorem fuel_mono_succ :
    (∀ f s v r, copyV f s v = some r → copyV (f + 1) s v = some r) ∧
    (∀ f s fs r, copyFs f s fs = some r → copyFs (f + 1) s fs = some r) ∧
    (∀ f s a' i es r, copyElems f s a' i es = some r → copyElems (f + 1) s a' i es = some r) ∧
    (∀ f s a' es r, copyEntries f s a' es = some r → copyEntries (f + 1) s a' es = some r) := by
  apply copyV.mutual_induct
    (fun f s v => ∀ r, copyV f s v = some r → copyV (f + 1) s v = some r)
    (fun f s fs => ∀ r, copyFs f s fs = some r → copyFs (f + 1) s fs = some r)
    (fun f s a' i es => ∀ r, copyElems f s a' i es = some r → copyElems (f + 1) s a' i es = some r)
    (fun f s a' es => ∀ r, copyEntries f s a' es = some r → copyEntries (f + 1) s a' es = some r)
  all_goals
    intros
    simp_all +zetaDelta [copyV, copyFs, copyElems, copyEntries]

theorem mono_of_succ {P : Nat → Prop} (hs : ∀ f, P f → P (f + 1)) {f f' : Nat} (hle : f ≤ f') (h : P f) : P f' := by
  induction hle with
  | refl => exact h
  | step _ ih => exact hs _ ih

theorem copyV_mono {f f' : Nat} (hle : f ≤ f') {s v r} (h : copyV f s v = some r) : copyV f' s v = some r :=
  mono_of_succ (fun f => fuel_mono_succ.1 f s v r) hle h
theorem copyFs_mono {f f' : Nat} (hle : f ≤ f') {s v r} (h : copyFs f s v = some r) : copyFs f' s v = some r :=
  mono_of_succ (fun f => fuel_mono_succ.2.1 f s v r) hle h
theorem copyEntries_mono {f f' : Nat} (hle : f ≤ f') {s a es r} (h : copyEntries f s a es = some r) :
    copyEntries f' s a es = some r :=
  mono_of_succ (fun f => fuel_mono_succ.2.2.2 f s a es r) hle h
theorem copyElems_mono {f f' : Nat} (hle : f ≤ f') {s a i es r} (h : copyElems f s a i es = some r) :
    copyElems f' s a i es = some r :=
  mono_of_succ (fun f => fuel_mono_succ.2.2.1 f s a i es r) hle h

theorem self_slice_none (f : Nat) : ∀ s : CS, s.heap[0]? = some (.arr [.ifc (.sl 0 1)]) →
    copyV f s (.sl 0 1) = none ∧ copyV f s (.ifc (.sl 0 1)) = none ∧
    ∀ a' i, copyElems f s a' i [.ifc (.sl 0 1)] = none := by
  induction f with
  | zero => intro s _; simp [copyV, copyElems]
  | succ f ih =>
    intro s hs
    have hlen : 0 < s.heap.length := lt_of_getElem? hs
    refine ⟨?_, ?_, ?_⟩
    · simp only [copyV, hs]
      have h1 := (ih { s with heap := s.heap ++ [.arr ([HV.ifc (.sl 0 1)].map fun _ => .nil)] }
        (by simp only [List.getElem?_append_left hlen]; exact hs)).2.2 s.heap.length 0
      rw [h1]
    · simp only [copyV, (ih s hs).1]
    · intro a' i
      simp only [copyElems, (ih s hs).2.1]

inductive Task where
  | v (v : HV)
  | fs (fs : HFs)
  | ents (a' : Nat) (es : List (HV × HV))
  | elems (a' i : Nat) (es : List HV)

def Task.tgt : Task → Option Nat
  | .v _ => none
  | .fs _ => none
  | .ents a' _ => some a'
  | .elems a' _ _ => some a'

/-- for the two loops, which return only a state, the list of copies is a ghost result -/
inductive Res where
  | v (v : HV)
  | fs (fs : HFs)
  | ents (es : List (HV × HV))
  | elems (es : List HV)

/-- `G a c` is what a run records about the cell `c` it finds at an address `a` that it dereferences, and `D`
must hold whenever it meets a dangling or ill-kinded reference. -/
inductive RunG (G : Nat → Cell → Prop) (D : Prop) : CS → Task → CS → Res → Prop
  | sc {s : CS} {n : Nat} : RunG G D s (.v (.sc n)) s (.v (.sc n))
  | nil {s : CS} : RunG G D s (.v .nil) s (.v .nil)
  | ptrHit {s : CS} {a a' : Nat} : lookup s.pmemo a = some a' → RunG G D s (.v (.ptr a)) s (.v (.ptr a'))
  | ptrNew {s : CS} {a : Nat} {v : HV} {s2 : CS} {v' : HV} : lookup s.pmemo a = none →
      G a (.val v) → s.heap[a]? = some (.val v) →
      RunG G D { s with heap := s.heap ++ [.val .nil], pmemo := (a, s.heap.length) :: s.pmemo } (.v v) s2 (.v v') →
      RunG G D s (.v (.ptr a)) { s2 with heap := setCell s2.heap s.heap.length (.val v') } (.v (.ptr s.heap.length))
  | ptrDang {s : CS} {a : Nat} : lookup s.pmemo a = none → (∀ v, s.heap[a]? ≠ some (.val v)) → D →
      RunG G D s (.v (.ptr a)) s (.v (.ptr a))
  | mpHit {s : CS} {a a' : Nat} : lookup s.mmemo a = some a' → RunG G D s (.v (.mp a)) s (.v (.mp a'))
  | mpNew {s : CS} {a : Nat} {es : List (HV × HV)} {s2 : CS} {es' : List (HV × HV)} : lookup s.mmemo a = none →
      G a (.mapc es) → s.heap[a]? = some (.mapc es) →
      RunG G D { s with heap := s.heap ++ [.mapc []], mmemo := (a, s.heap.length) :: s.mmemo }
        (.ents s.heap.length es) s2 (.ents es') →
      RunG G D s (.v (.mp a)) s2 (.v (.mp s.heap.length))
  | mpDang {s : CS} {a : Nat} : lookup s.mmemo a = none → (∀ es, s.heap[a]? ≠ some (.mapc es)) → D →
      RunG G D s (.v (.mp a)) s (.v (.mp a))
  | slNew {s : CS} {a len : Nat} {es : List HV} {s2 : CS} {es' : List HV} :
      G a (.arr es) → s.heap[a]? = some (.arr es) →
      RunG G D { s with heap := s.heap ++ [.arr (es.map fun _ => .nil)] } (.elems s.heap.length 0 es) s2 (.elems es') →
      RunG G D s (.v (.sl a len)) s2 (.v (.sl s.heap.length len))
  | slDang {s : CS} {a len : Nat} : (∀ es, s.heap[a]? ≠ some (.arr es)) → D →
      RunG G D s (.v (.sl a len)) s (.v (.sl a len))
  | st {s : CS} {fs : HFs} {s' : CS} {fs' : HFs} : RunG G D s (.fs fs) s' (.fs fs') → RunG G D s (.v (.st fs)) s' (.v (.st fs'))
  | ar {s : CS} {fs : HFs} {s' : CS} {fs' : HFs} : RunG G D s (.fs fs) s' (.fs fs') → RunG G D s (.v (.ar fs)) s' (.v (.ar fs'))
  | ifc {s : CS} {d : HV} {s' : CS} {d' : HV} : RunG G D s (.v d) s' (.v d') → RunG G D s (.v (.ifc d)) s' (.v (.ifc d'))
  | fsNil {s : CS} : RunG G D s (.fs .nil) s (.fs .nil)
  | fsConsE {s : CS} {v : HV} {rest : HFs} {s1 : CS} {v' : HV} {s2 : CS} {rest' : HFs} :
      RunG G D s (.v v) s1 (.v v') → RunG G D s1 (.fs rest) s2 (.fs rest') →
      RunG G D s (.fs (.cons true v rest)) s2 (.fs (.cons true v' rest'))
  | fsConsU {s : CS} {v : HV} {rest : HFs} {s2 : CS} {rest' : HFs} :
      RunG G D s (.fs rest) s2 (.fs rest') → RunG G D s (.fs (.cons false v rest)) s2 (.fs (.cons false v rest'))
  | entsNil {s : CS} {a' : Nat} : RunG G D s (.ents a' []) s (.ents [])
  | entsCons {s : CS} {a' : Nat} {k v : HV} {rest : List (HV × HV)} {s1 : CS} {k' : HV} {s2 : CS} {v' : HV}
      {s3 : CS} {rest' : List (HV × HV)} :
      RunG G D s (.v k) s1 (.v k') → RunG G D s1 (.v v) s2 (.v v') →
      RunG G D { s2 with heap := addEntry s2.heap a' k' v' } (.ents a' rest) s3 (.ents rest') →
      RunG G D s (.ents a' ((k, v) :: rest)) s3 (.ents ((k', v') :: rest'))
  | elemsNil {s : CS} {a' i : Nat} : RunG G D s (.elems a' i []) s (.elems [])
  | elemsCons {s : CS} {a' i : Nat} {v : HV} {rest : List HV} {s1 : CS} {v' : HV} {s2 : CS} {rest' : List HV} :
      RunG G D s (.v v) s1 (.v v') →
      RunG G D { s1 with heap := setElem s1.heap a' i v' } (.elems a' (i + 1) rest) s2 (.elems rest') →
      RunG G D s (.elems a' i (v :: rest)) s2 (.elems (v' :: rest'))

abbrev Run0 := RunG (fun _ _ => True) True

abbrev Run (h : Heap) := RunG (fun a c => h[a]? = some c) False

theorem sound0 (f : Nat) :
    (∀ s v s' v', copyV f s v = some (s', v') → Run0 s (.v v) s' (.v v')) ∧
    (∀ s fs s' fs', copyFs f s fs = some (s', fs') → Run0 s (.fs fs) s' (.fs fs')) ∧
    (∀ s a' es s', copyEntries f s a' es = some s' → ∃ es', Run0 s (.ents a' es) s' (.ents es')) ∧
    (∀ s a' i es s', copyElems f s a' i es = some s' → ∃ es', Run0 s (.elems a' i es) s' (.elems es')) := by
  induction f with
  | zero =>
    refine ⟨?_, ?_, ?_, ?_⟩ <;> intros <;> simp_all [copyV, copyFs, copyEntries, copyElems]
  | succ f ih =>
    obtain ⟨ihV, ihFs, ihEn, ihEl⟩ := ih
    refine ⟨?_, ?_, ?_, ?_⟩
    · intro s v s' r h
      cases v <;> simp only [copyV] at h
      case sc => cases h; exact .sc
      case nil => cases h; exact .nil
      case ptr =>
        split at h
        · cases h; exact .ptrHit ‹_›
        split at h
        · split at h
          · cases h; exact .ptrNew ‹_› trivial ‹_› (ihV _ _ _ _ ‹_›)
          · cases h
        · cases h; exact .ptrDang ‹_› ‹_› trivial
      case mp =>
        split at h
        · cases h; exact .mpHit ‹_›
        split at h
        · split at h
          · cases h
            obtain ⟨es', hr⟩ := ihEn _ _ _ _ ‹_›
            exact .mpNew ‹_› trivial ‹_› hr
          · cases h
        · cases h; exact .mpDang ‹_› ‹_› trivial
      case sl =>
        split at h
        · split at h
          · cases h
            obtain ⟨es', hr⟩ := ihEl _ _ _ _ _ ‹_›
            exact .slNew trivial ‹_› hr
          · cases h
        · cases h; exact .slDang ‹_› trivial
      case st =>
        split at h
        · cases h; exact .st (ihFs _ _ _ _ ‹_›)
        · cases h
      case ar =>
        split at h
        · cases h; exact .ar (ihFs _ _ _ _ ‹_›)
        · cases h
      case ifc =>
        split at h
        · cases h; exact .ifc (ihV _ _ _ _ ‹_›)
        · cases h
    · intro s fs s' r h
      cases fs with
      | nil => cases h; exact .fsNil
      | cons ex v rest =>
        cases ex <;> simp only [copyFs, Bool.false_eq_true, ↓reduceIte] at h
        · split at h
          · cases h; exact .fsConsU (ihFs _ _ _ _ ‹_›)
          · cases h
        · split at h
          · split at h
            · cases h; exact .fsConsE (ihV _ _ _ _ ‹_›) (ihFs _ _ _ _ ‹_›)
            · cases h
          · cases h
    · intro s a' es s' h
      cases es with
      | nil => cases h; exact ⟨[], .entsNil⟩
      | cons p rest =>
        simp only [copyEntries] at h
        split at h
        · split at h
          · obtain ⟨rest', hr⟩ := ihEn _ _ _ _ h
            exact ⟨_, .entsCons (ihV _ _ _ _ ‹_›) (ihV _ _ _ _ ‹_›) hr⟩
          · cases h
        · cases h
    · intro s a' i es s' h
      cases es with
      | nil => cases h; exact ⟨[], .elemsNil⟩
      | cons v rest =>
        simp only [copyElems] at h
        split at h
        · obtain ⟨rest', hr⟩ := ihEl _ _ _ _ _ h
          exact ⟨_, .elemsCons (ihV _ _ _ _ ‹_›) hr⟩
        · cases h

def Exec (f : Nat) (s : CS) (t : Task) (s' : CS) (r : Res) : Prop :=
  match t, r with
  | .v v, .v v' => copyV f s v = some (s', v')
  | .fs fs, .fs fs' => copyFs f s fs = some (s', fs')
  | .ents a' es, .ents _ => copyEntries f s a' es = some s'
  | .elems a' i es, .elems _ => copyElems f s a' i es = some s'
  | _, _ => False

theorem complete {G D s t s' r} (hr : RunG G D s t s' r) : ∃ f, Exec f s t s' r := by
  induction hr with
  | sc | nil | fsNil | entsNil | elemsNil => exact ⟨1, rfl⟩
  | ptrHit hl | ptrDang hl | mpHit hl | mpDang hl => exact ⟨1, by simp only [Exec, copyV, hl]⟩
  | slDang => exact ⟨1, by simp only [Exec, copyV]⟩
  | ptrNew hl _ hv _ ih | mpNew hl _ hv _ ih =>
    obtain ⟨f, hf⟩ := ih
    exact ⟨f + 1, by simp only [Exec] at hf ⊢; simp only [copyV, hl, hv, hf]⟩
  | slNew _ hv _ ih =>
    obtain ⟨f, hf⟩ := ih
    exact ⟨f + 1, by simp only [Exec] at hf ⊢; simp only [copyV, hv, hf]⟩
  | st _ ih | ar _ ih | ifc _ ih =>
    obtain ⟨f, hf⟩ := ih
    exact ⟨f + 1, by simp only [Exec] at hf ⊢; simp only [copyV, hf]⟩
  | fsConsU _ ih =>
    obtain ⟨f, hf⟩ := ih
    exact ⟨f + 1, by simp only [Exec] at hf ⊢; simp only [copyFs, hf, Bool.false_eq_true, ↓reduceIte]⟩
  | fsConsE _ _ ih1 ih2 =>
    obtain ⟨f1, h1⟩ := ih1
    obtain ⟨f2, h2⟩ := ih2
    refine ⟨f1 + f2 + 1, ?_⟩
    simp only [Exec] at h1 h2 ⊢
    simp only [copyFs, copyV_mono (Nat.le_add_right f1 f2) h1, copyFs_mono (Nat.le_add_left f2 f1) h2, ↓reduceIte]
  | entsCons _ _ _ ih1 ih2 ih3 =>
    obtain ⟨f1, h1⟩ := ih1
    obtain ⟨f2, h2⟩ := ih2
    obtain ⟨f3, h3⟩ := ih3
    refine ⟨f1 + f2 + f3 + 1, ?_⟩
    simp only [Exec] at h1 h2 h3 ⊢
    simp only [copyEntries, copyV_mono (by omega : f1 ≤ f1 + f2 + f3) h1, copyV_mono (by omega : f2 ≤ f1 + f2 + f3) h2,
      copyEntries_mono (by omega : f3 ≤ f1 + f2 + f3) h3]
  | elemsCons _ _ ih1 ih2 =>
    obtain ⟨f1, h1⟩ := ih1
    obtain ⟨f2, h2⟩ := ih2
    refine ⟨f1 + f2 + 1, ?_⟩
    simp only [Exec] at h1 h2 ⊢
    simp only [copyElems, copyV_mono (Nat.le_add_right f1 f2) h1, copyElems_mono (Nat.le_add_left f2 f1) h2]

structure Pres (x : Option Nat) (s s' : CS) : Prop where
  len : s.heap.length ≤ s'.heap.length
  pm : Ext s.pmemo s'.pmemo
  mm : Ext s.mmemo s'.mmemo
  keep : ∀ a, a < s.heap.length → x ≠ some a → s'.heap[a]? = s.heap[a]?

theorem Pres.refl (x s) : Pres x s s := ⟨Nat.le_refl _, Ext.refl _, Ext.refl _, fun _ _ _ => rfl⟩
theorem Pres.trans {x s1 s2 s3} (h1 : Pres x s1 s2) (h2 : Pres x s2 s3) : Pres x s1 s3 :=
  ⟨Nat.le_trans h1.len h2.len, h1.pm.trans h2.pm, h1.mm.trans h2.mm,
    fun a ha hx => by rw [h2.keep a (Nat.lt_of_lt_of_le ha h1.len) hx, h1.keep a ha hx]⟩
theorem Pres.weaken {x s1 s2} (h : Pres none s1 s2) : Pres x s1 s2 :=
  ⟨h.len, h.pm, h.mm, fun a ha _ => h.keep a ha (by simp)⟩

theorem Pres.append (s : CS) (c : Cell) (pm mm) (hp : Ext s.pmemo pm) (hm : Ext s.mmemo mm) :
    Pres none s { heap := s.heap ++ [c], pmemo := pm, mmemo := mm } :=
  ⟨by simp, hp, hm, fun a ha _ => by simp [List.getElem?_append_left ha]⟩

theorem Pres.addEntry (s : CS) (a' : Nat) (k v : HV) : Pres (some a') s { s with heap := addEntry s.heap a' k v } :=
  ⟨by simp, Ext.refl _, Ext.refl _, fun b _ hx => addEntry_ne _ _ _ (by simpa using hx)⟩
theorem Pres.setElem (s : CS) (a' i : Nat) (v : HV) : Pres (some a') s { s with heap := setElem s.heap a' i v } :=
  ⟨by simp, Ext.refl _, Ext.refl _, fun b _ hx => setElem_ne _ _ _ (by simpa using hx)⟩

theorem Pres.of_append {s s2 : CS} {c : Cell} {pm mm x} (hp : Ext s.pmemo pm) (hm : Ext s.mmemo mm)
    (h : Pres x { heap := s.heap ++ [c], pmemo := pm, mmemo := mm } s2) (hx : ∀ a, x = some a → s.heap.length ≤ a) :
    Pres none s s2 :=
  have h0 := Pres.append s c pm mm hp hm
  ⟨Nat.le_trans h0.len h.len, hp.trans h.pm, hm.trans h.mm, fun a ha _ => by
    rw [h.keep a (Nat.lt_of_lt_of_le ha h0.len) (fun he => by have := hx a he; omega), h0.keep a ha (by simp)]⟩

theorem run_pres {G D s t s' r} (hr : RunG G D s t s' r) : Pres t.tgt s s' := by
  induction hr with
  | sc | nil | ptrHit | ptrDang | mpHit | mpDang | slDang | fsNil | entsNil | elemsNil => exact Pres.refl _ _
  | @ptrNew s a _ _ _ hl _ _ _ ih =>
    have h1 := Pres.of_append (Ext.cons hl) (Ext.refl _) ih nofun
    refine ⟨by simpa using h1.len, h1.pm, h1.mm, fun b hb hx => ?_⟩
    simp only
    rw [setCell_ne _ _ (by omega)]
    exact h1.keep b hb hx
  | mpNew hl _ _ _ ih => exact Pres.of_append (Ext.refl _) (Ext.cons hl) ih (by simp [Task.tgt])
  | slNew _ _ _ ih => exact Pres.of_append (Ext.refl _) (Ext.refl _) ih (by simp [Task.tgt])
  | st _ ih | ar _ ih | ifc _ ih | fsConsU _ ih => exact ih
  | fsConsE _ _ ih1 ih2 => exact ih1.trans ih2
  | entsCons _ _ _ ih1 ih2 ih3 => exact ((ih1.trans ih2).weaken.trans (Pres.addEntry ..)).trans ih3
  | elemsCons _ _ ih1 ih2 => exact (ih1.weaken.trans (Pres.setElem ..)).trans ih2

structure Ctx (h : Heap) (s : CS) : Prop where
  len : h.length ≤ s.heap.length
  agree : ∀ a, a < h.length → s.heap[a]? = h[a]?

theorem Ctx.get {h s} (hc : Ctx h s) {a : Nat} {c : Cell} (ha : h[a]? = some c) : s.heap[a]? = some c := by
  rw [hc.agree a (lt_of_getElem? ha)]; exact ha

theorem Ctx.pres {h s s' x} (hc : Ctx h s) (hp : Pres x s s') (hx : ∀ a', x = some a' → h.length ≤ a') : Ctx h s' :=
  ⟨Nat.le_trans hc.len hp.len, fun a ha => by
    rw [hp.keep a (Nat.lt_of_lt_of_le ha hc.len) (fun he => by have := hx a he; omega), hc.agree a ha]⟩

theorem Ctx.append {h : Heap} {s : CS} (hc : Ctx h s) (c : Cell) (pm mm) :
    Ctx h { heap := s.heap ++ [c], pmemo := pm, mmemo := mm } :=
  ⟨by simp; exact Nat.le_succ_of_le hc.len, fun a ha => by
    simp only; rw [List.getElem?_append_left (Nat.lt_of_lt_of_le ha hc.len)]; exact hc.agree a ha⟩

def okTask (h : Heap) : Task → Prop
  | .v v => okV h v = true
  | .fs fs => okFs h fs = true
  | .ents a' es => h.length ≤ a' ∧ ∀ p ∈ es, okV h p.1 = true ∧ okV h p.2 = true
  | .elems a' _ es => h.length ≤ a' ∧ ∀ v ∈ es, okV h v = true

theorem run0_wf {h : Heap} (hcells : CellsOK h) {s t s' r} (hr : Run0 s t s' r) (hc : Ctx h s) (hk : okTask h t) :
    Run h s t s' r := by
  induction hr with
  | sc => exact .sc
  | nil => exact .nil
  | ptrHit hl => exact .ptrHit hl
  | mpHit hl => exact .mpHit hl
  | ptrNew hl _ hv _ ih =>
    obtain ⟨_, hv0⟩ := okV_ptr hk
    have hv0 := (hc.agree _ (lt_of_getElem? hv0)).symm.trans hv
    exact .ptrNew hl hv0 hv (ih (hc.append ..) (hcells.val hv0))
  | mpNew hl _ hv _ ih =>
    obtain ⟨_, hv0⟩ := okV_mp hk
    have hv0 := (hc.agree _ (lt_of_getElem? hv0)).symm.trans hv
    exact .mpNew hl hv0 hv (ih (hc.append ..) ⟨hc.len, hcells.mapc hv0⟩)
  | slNew _ hv _ ih =>
    obtain ⟨_, hv0⟩ := okV_sl hk
    have hv0 := (hc.agree _ (lt_of_getElem? hv0)).symm.trans hv
    exact .slNew hv0 hv (ih (hc.append ..) ⟨hc.len, hcells.arr hv0⟩)
  | ptrDang _ hv => obtain ⟨v0, hv0⟩ := okV_ptr hk; exact absurd (hc.get hv0) (hv v0)
  | mpDang _ hv => obtain ⟨v0, hv0⟩ := okV_mp hk; exact absurd (hc.get hv0) (hv v0)
  | slDang hv => obtain ⟨v0, hv0⟩ := okV_sl hk; exact absurd (hc.get hv0) (hv v0)
  | st _ ih => exact .st (ih hc hk)
  | ar _ ih => exact .ar (ih hc hk)
  | ifc _ ih => exact .ifc (ih hc hk)
  | fsNil => exact .fsNil
  | fsConsE h1 _ ih1 ih2 =>
    simp only [okTask, okFs, Bool.and_eq_true] at hk
    exact .fsConsE (ih1 hc hk.1) (ih2 (hc.pres (run_pres h1) nofun) hk.2)
  | fsConsU _ ih =>
    simp only [okTask, okFs, Bool.and_eq_true] at hk
    exact .fsConsU (ih hc hk.2)
  | entsNil => exact .entsNil
  | entsCons h1 h2 _ ih1 ih2 ih3 =>
    obtain ⟨hle, hall⟩ := hk
    have hkv := hall _ (List.mem_cons_self ..)
    have hc1 := hc.pres (run_pres h1) nofun
    have hc2 := hc1.pres (run_pres h2) nofun
    exact .entsCons (ih1 hc hkv.1) (ih2 hc1 hkv.2)
      (ih3 (hc2.pres (Pres.addEntry ..) (by simpa using hle)) ⟨hle, fun p hp => hall p (List.mem_cons_of_mem _ hp)⟩)
  | elemsNil => exact .elemsNil
  | elemsCons h1 _ ih1 ih2 =>
    obtain ⟨hle, hall⟩ := hk
    have hc1 := hc.pres (run_pres h1) nofun
    exact .elemsCons (ih1 hc (hall _ (List.mem_cons_self ..)))
      (ih2 (hc1.pres (Pres.setElem ..) (by simpa using hle)) ⟨hle, fun p hp => hall p (List.mem_cons_of_mem _ hp)⟩)

mutual
def frV (m : Nat) : HV → Prop
  | .sc _ => True
  | .nil => True
  | .ptr a => m ≤ a
  | .mp a => m ≤ a
  | .sl a _ => m ≤ a
  | .st fs => frFs m fs
  | .ar es => frFs m es
  | .ifc d => frV m d
def frFs (m : Nat) : HFs → Prop
  | .nil => True
  | .cons ex v rest => (ex = true → frV m v) ∧ frFs m rest
end

def frCell (m : Nat) : Cell → Prop
  | .val v => frV m v
  | .mapc es => ∀ p ∈ es, frV m p.1 ∧ frV m p.2
  | .arr es => ∀ v ∈ es, frV m v

def FreshHeap (m : Nat) (hp : Heap) : Prop := ∀ (a : Nat) (c : Cell), m ≤ a → hp[a]? = some c → frCell m c

mutual
theorem frV_iff_inV (m : Nat) : ∀ v, frV m v ↔ inV (fun a => m ≤ a) v
  | .sc _ => Iff.rfl
  | .nil => Iff.rfl
  | .ptr _ => Iff.rfl
  | .mp _ => Iff.rfl
  | .sl _ _ => Iff.rfl
  | .st fs => by simp only [frV, inV]; exact frFs_iff_inFs m fs
  | .ar fs => by simp only [frV, inV]; exact frFs_iff_inFs m fs
  | .ifc d => by simp only [frV, inV]; exact frV_iff_inV m d
theorem frFs_iff_inFs (m : Nat) : ∀ fs, frFs m fs ↔ inFs (fun a => m ≤ a) fs
  | .nil => Iff.rfl
  | .cons ex v r => by simp only [frFs, inFs, frV_iff_inV m v, frFs_iff_inFs m r]
end

theorem frCell_iff_inCell (m : Nat) (c : Cell) : frCell m c ↔ inCell (fun a => m ≤ a) c := by
  cases c <;> simp only [frCell, inCell, frV_iff_inV]

theorem freshHeap_iff_closed (m : Nat) (h : Heap) : FreshHeap m h ↔ Closed (fun a => m ≤ a) h := by
  simp only [FreshHeap, Closed, frCell_iff_inCell]

theorem FreshHeap.append {m hp} (hf : FreshHeap m hp) {c} (hc : frCell m c) : FreshHeap m (hp ++ [c]) :=
  (freshHeap_iff_closed ..).2 (((freshHeap_iff_closed ..).1 hf).append ((frCell_iff_inCell ..).1 hc))

theorem reach_fresh {m : Nat} {hp : Heap} (hf : FreshHeap m hp) {v : HV} {a : Nat} (hr : ReachV hp v a)
    (hv : frV m v) : m ≤ a :=
  reach_in ((freshHeap_iff_closed ..).1 hf) hr ((frV_iff_inV ..).1 hv)

def MemoB (m : Nat) (mem : List (Nat × Nat)) (n : Nat) : Prop :=
  ∀ a a', lookup mem a = some a' → m ≤ a' ∧ a' < n

structure Inv (m : Nat) (s : CS) : Prop where
  len : m ≤ s.heap.length
  closed : Closed (m ≤ ·) s.heap
  pb : MemoB m s.pmemo s.heap.length
  mb : MemoB m s.mmemo s.heap.length
  pinj : Injective s.pmemo
  minj : Injective s.mmemo

def inRes (P : Nat → Prop) : Res → Prop
  | .v v => inV P v
  | .fs fs => inFs P fs
  | .ents es => ∀ p ∈ es, inV P p.1 ∧ inV P p.2
  | .elems es => ∀ v ∈ es, inV P v

def tgtGe (m : Nat) (t : Task) : Prop := ∀ a', t.tgt = some a' → m ≤ a'

theorem MemoB.mono {m mem n n'} (h : MemoB m mem n) (hn : n ≤ n') : MemoB m mem n' :=
  fun a a' hl => ⟨(h a a' hl).1, Nat.lt_of_lt_of_le (h a a' hl).2 hn⟩

theorem MemoB.cons {m mem n} (h : MemoB m mem n) (a : Nat) (hmn : m ≤ n) : MemoB m ((a, n) :: mem) (n + 1) := by
  intro b b' hl
  rw [lookup_cons] at hl
  split at hl
  · cases hl; exact ⟨hmn, Nat.lt_succ_self _⟩
  · have := h b b' hl; exact ⟨this.1, Nat.lt_succ_of_lt this.2⟩

theorem Injective.cons {m mem n} (hb : MemoB m mem n) (hi : Injective mem) (a : Nat) : Injective ((a, n) :: mem) := by
  intro x y c hx hy
  rw [lookup_cons] at hx hy
  split at hx <;> split at hy
  · subst_vars; rfl
  · cases hx; have := (hb y _ hy).2; omega
  · cases hy; have := (hb x _ hx).2; omega
  · exact hi x y c hx hy

theorem Inv.heap {m : Nat} {s : CS} (hi : Inv m s) {hp : Heap} (hlen : hp.length = s.heap.length)
    (hc : Closed (m ≤ ·) hp) : Inv m { s with heap := hp } :=
  ⟨hlen ▸ hi.len, hc, hlen ▸ hi.pb, hlen ▸ hi.mb, hi.pinj, hi.minj⟩

theorem Inv.append {m : Nat} {s : CS} (hi : Inv m s) {c : Cell} (hc : inCell (m ≤ ·) c) {pm mm}
    (hp : MemoB m pm (s.heap.length + 1) ∧ Injective pm) (hm : MemoB m mm (s.heap.length + 1) ∧ Injective mm) :
    Inv m { heap := s.heap ++ [c], pmemo := pm, mmemo := mm } :=
  ⟨by simp; exact Nat.le_succ_of_le hi.len, hi.closed.append hc, by simpa using hp.1, by simpa using hm.1, hp.2, hm.2⟩

theorem run_inv {h : Heap} (m : Nat) {s t s' r} (hr : Run h s t s' r) (hi : Inv m s) (ht : tgtGe m t) :
    Inv m s' ∧ inRes (m ≤ ·) r := by
  induction hr with
  | sc | nil | fsNil => exact ⟨hi, trivial⟩
  | entsNil | elemsNil => exact ⟨hi, nofun⟩
  | ptrDang _ _ d | mpDang _ _ d | slDang _ d => exact d.elim
  | ptrHit hl => exact ⟨hi, (hi.pb _ _ hl).1⟩
  | mpHit hl => exact ⟨hi, (hi.mb _ _ hl).1⟩
  | @ptrNew s a _ _ v' _ _ _ _ ih =>
    obtain ⟨hi2, hv'⟩ := ih (hi.append (c := .val .nil) trivial ⟨hi.pb.cons a hi.len, Injective.cons hi.pb hi.pinj a⟩
      ⟨hi.mb.mono (Nat.le_succ _), hi.minj⟩) nofun
    exact ⟨hi2.heap (by simp) (hi2.closed.set _ (c := .val v') hv'), hi.len⟩
  | @mpNew s a _ _ _ _ _ _ _ ih =>
    obtain ⟨hi2, _⟩ := ih (hi.append (c := .mapc []) nofun ⟨hi.pb.mono (Nat.le_succ _), hi.pinj⟩
      ⟨hi.mb.cons a hi.len, Injective.cons hi.mb hi.minj a⟩) (fun _ e => Option.some.inj e ▸ hi.len)
    exact ⟨hi2, hi.len⟩
  | @slNew s _ _ es _ _ _ _ _ ih =>
    obtain ⟨hi2, _⟩ := ih (hi.append (c := .arr (es.map fun _ => .nil)) (by simp [inCell, inV])
      ⟨hi.pb.mono (Nat.le_succ _), hi.pinj⟩ ⟨hi.mb.mono (Nat.le_succ _), hi.minj⟩) (fun _ e => Option.some.inj e ▸ hi.len)
    exact ⟨hi2, hi.len⟩
  | st _ ih | ar _ ih | ifc _ ih => exact ih hi ht
  | fsConsE _ _ ih1 ih2 =>
    obtain ⟨hi1, h1⟩ := ih1 hi nofun
    obtain ⟨hi2, h2⟩ := ih2 hi1 nofun
    exact ⟨hi2, fun _ => h1, h2⟩
  | fsConsU _ ih =>
    obtain ⟨hi2, h2⟩ := ih hi nofun
    exact ⟨hi2, nofun, h2⟩
  | entsCons _ _ _ ih1 ih2 ih3 =>
    obtain ⟨hi1, h1⟩ := ih1 hi nofun
    obtain ⟨hi2, h2⟩ := ih2 hi1 nofun
    obtain ⟨hi3, h3⟩ := ih3 (hi2.heap (by simp) (hi2.closed.addEntry (ht _ rfl) h1 h2)) ht
    exact ⟨hi3, List.forall_mem_cons.mpr ⟨⟨h1, h2⟩, h3⟩⟩
  | elemsCons _ _ ih1 ih2 =>
    obtain ⟨hi1, h1⟩ := ih1 hi nofun
    obtain ⟨hi2, h2⟩ := ih2 (hi1.heap (by simp) (hi1.closed.setElem (ht _ rfl) _ h1)) ht
    exact ⟨hi2, List.forall_mem_cons.mpr ⟨h1, h2⟩⟩

def CS.init (h : Heap) : CS := { heap := h, pmemo := [], mmemo := [] }

theorem deepCopy_run0 {f : Nat} {h : Heap} {v : HV} {h' : Heap} {v' : HV} (hc : deepCopy f h v = some (h', v')) :
    ∃ s', Run0 (CS.init h) (.v v) s' (.v v') ∧ s'.heap = h' := by
  unfold deepCopy at hc
  cases hcv : copyV f { heap := h, pmemo := [], mmemo := [] } v with
  | none => rw [hcv] at hc; cases hc
  | some p => rw [hcv] at hc; cases hc; exact ⟨p.1, (sound0 f).1 _ _ _ _ hcv, rfl⟩

theorem deepCopy_frozen {f : Nat} {h h' : Heap} {v v' : HV} (hc : deepCopy f h v = some (h', v')) :
    h.length ≤ h'.length ∧ ∀ a, a < h.length → h'[a]? = h[a]? := by
  obtain ⟨s', hr, rfl⟩ := deepCopy_run0 hc
  have hp := run_pres hr
  exact ⟨hp.len, fun a ha => hp.keep a ha nofun⟩

theorem deepCopy_inv {m f : Nat} {h h' : Heap} {v v' : HV} (hh : HeapOK h = true) (hv : okV h v = true)
    (hm : m ≤ h.length) (hcl : Closed (m ≤ ·) h) (hc : deepCopy f h v = some (h', v')) :
    ∃ s', Run h (CS.init h) (.v v) s' (.v v') ∧ s'.heap = h' ∧ Inv m s' ∧ inV (m ≤ ·) v' := by
  obtain ⟨s', hr, he⟩ := deepCopy_run0 hc
  have hr := run0_wf (.of_heapOK hh) hr ⟨Nat.le_refl _, fun _ _ => rfl⟩ hv
  obtain ⟨hi, hv'⟩ := run_inv m hr ⟨hm, hcl, nofun, nofun, nofun, nofun⟩ nofun
  exact ⟨s', hr, he, hi, hv'⟩

theorem deepCopy_fresh_at {m f : Nat} {h h' : Heap} {v v' : HV} (hh : HeapOK h = true) (hv : okV h v = true)
    (hm : m ≤ h.length) (hf : FreshHeap m h) (hc : deepCopy f h v = some (h', v')) : FreshHeap m h' ∧ frV m v' := by
  obtain ⟨s', _, rfl, hi, hv'⟩ := deepCopy_inv hh hv hm ((freshHeap_iff_closed ..).1 hf) hc
  exact ⟨(freshHeap_iff_closed ..).2 hi.closed, (frV_iff_inV ..).2 hv'⟩

theorem Closed.above (h : Heap) : Closed (h.length ≤ ·) h :=
  fun _ _ hle hg => absurd (lt_of_getElem? hg) (Nat.not_lt.mpr hle)

theorem deepCopy_fresh {f : Nat} {h h' : Heap} {v v' : HV} (hh : HeapOK h = true) (hv : okV h v = true)
    (hc : deepCopy f h v = some (h', v')) : ∀ a, ReachV h' v' a → h.length ≤ a := by
  obtain ⟨s', _, rfl, hi, hv'⟩ := deepCopy_inv hh hv (Nat.le_refl _) (Closed.above h) hc
  exact fun a ha => reach_in hi.closed ha hv'

def setFrom : List HV → Nat → List HV → List HV
  | cur, _, [] => cur
  | cur, i, x :: xs => setFrom (cur.set i x) (i + 1) xs

theorem setFrom_eq : ∀ (xs cur : List HV) (i : Nat), i + xs.length = cur.length → setFrom cur i xs = cur.take i ++ xs := by
  intro xs
  induction xs with
  | nil => intro cur i h; simp at h; simp [setFrom, h]
  | cons x xs ih =>
    intro cur i h
    simp only [List.length_cons] at h
    rw [setFrom, ih (cur.set i x) (i + 1) (by simp; omega)]
    have hi : i < cur.length := by omega
    rw [List.take_add_one]
    simp [List.getElem?_set_self hi, List.take_set_of_le]

theorem setFrom_full (xs cur : List HV) (h : xs.length = cur.length) : setFrom cur 0 xs = xs := by
  rw [setFrom_eq xs cur 0 (by omega)]; simp

def TgtPost (s : CS) (t : Task) (s' : CS) (r : Res) : Prop :=
  match t, r with
  | .ents a' _, .ents es' => ∀ done, s.heap[a']? = some (.mapc done) → s'.heap[a']? = some (.mapc (done ++ es'))
  | .elems a' i _, .elems es' => ∀ cur, s.heap[a']? = some (.arr cur) → s'.heap[a']? = some (.arr (setFrom cur i es'))
  | _, _ => True

theorem run_tgt {G D s t s' r} (hr : RunG G D s t s' r) (ht : ∀ a', t.tgt = some a' → a' < s.heap.length) :
    TgtPost s t s' r := by
  induction hr with
  | entsNil => intro done hd; simpa using hd
  | @entsCons s a' _ _ _ _ k' _ v' _ _ h1 h2 _ _ _ ih3 =>
    intro done hd
    have hlt : a' < s.heap.length := ht a' rfl
    have p12 := Pres.trans (x := none) (run_pres h1) (run_pres h2)
    have := ih3 (fun _ hb => by cases hb; simpa using Nat.lt_of_lt_of_le hlt p12.len) (done ++ [(k', v')])
      (addEntry_eq _ _ _ ((p12.keep a' hlt (by simp)).trans hd))
    simpa using this
  | elemsNil => intro cur hd; simpa [setFrom] using hd
  | @elemsCons s a' i _ _ _ v' _ _ h1 _ _ ih2 =>
    intro cur hd
    have hlt : a' < s.heap.length := ht a' rfl
    have p1 := run_pres h1
    have := ih2 (fun _ hb => by cases hb; simpa using Nat.lt_of_lt_of_le hlt p1.len) (cur.set i v')
      (setElem_eq _ _ _ ((p1.keep a' hlt nofun).trans hd))
    simpa [setFrom] using this
  | _ => trivial

inductive SimEnts (h h' : Heap) (pm mm : List (Nat × Nat)) : List (HV × HV) → List (HV × HV) → Prop
  | nil : SimEnts h h' pm mm [] []
  | cons {k k' v v' : HV} {r r' : List (HV × HV)} : Sim h h' pm mm k k' → Sim h h' pm mm v v' →
      SimEnts h h' pm mm r r' → SimEnts h h' pm mm ((k, v) :: r) ((k', v') :: r')

theorem SimList.length_eq {h h' pm mm} : ∀ (es es' : List HV), SimList h h' pm mm es es' → es.length = es'.length := by
  intro es
  induction es with
  | nil => intro es' hs; cases hs; rfl
  | cons x xs ih => intro es' hs; cases hs with | cons _ _ _ _ _ hr => simp [ih _ hr]

theorem SimEnts.index {h h' pm mm} {es es' : List (HV × HV)} (hs : SimEnts h h' pm mm es es') :
    es.length = es'.length ∧ ∀ i (hi : i < es.length) (hi' : i < es'.length),
      Sim h h' pm mm (es[i]).1 (es'[i]).1 ∧ Sim h h' pm mm (es[i]).2 (es'[i]).2 := by
  induction hs with
  | nil => exact ⟨rfl, fun i hi => by simp at hi⟩
  | cons hk hv _ ih =>
    refine ⟨by simp [ih.1], fun i hi hi' => ?_⟩
    cases i with
    | zero => exact ⟨hk, hv⟩
    | succ i => simpa using ih.2 i (by simpa using hi) (by simpa using hi')

/-- The isomorphism is stated against the final heap `h2` and memos, which a sub-run `s → s'` has not reached
yet (a pointer's cell is filled only after its target is copied); this is what the sub-run may assume of them. -/
structure Fut (s s' : CS) (h2 : Heap) (pm2 mm2 : List (Nat × Nat)) : Prop where
  pm : Ext s'.pmemo pm2
  mm : Ext s'.mmemo mm2
  agree : ∀ a, s.heap.length ≤ a → a < s'.heap.length → h2[a]? = s'.heap[a]?

def SimRes (h h2 : Heap) (pm mm : List (Nat × Nat)) : Task → Res → Prop
  | .v v, .v v' => Sim h h2 pm mm v v'
  | .fs fs, .fs fs' => SimFs h h2 pm mm fs fs'
  | .ents _ es, .ents es' => SimEnts h h2 pm mm es es'
  | .elems _ _ es, .elems es' => SimList h h2 pm mm es es'
  | _, _ => True

def NewCells (h : Heap) (s s' : CS) (h2 : Heap) (pm2 mm2 : List (Nat × Nat)) : Prop :=
  (∀ a a', lookup s'.pmemo a = some a' → lookup s.pmemo a = none →
    ∃ v v', h[a]? = some (.val v) ∧ h2[a']? = some (.val v') ∧ Sim h h2 pm2 mm2 v v') ∧
  (∀ a a', lookup s'.mmemo a = some a' → lookup s.mmemo a = none →
    ∃ es es', h[a]? = some (.mapc es) ∧ h2[a']? = some (.mapc es') ∧ SimEnts h h2 pm2 mm2 es es')

theorem NewCells.refl (h : Heap) (s : CS) (h2 pm2 mm2) : NewCells h s s h2 pm2 mm2 :=
  ⟨fun _ _ h1 h0 => (by rw [h0] at h1; cases h1), fun _ _ h1 h0 => (by rw [h0] at h1; cases h1)⟩

theorem NewCells.comp {h : Heap} {s s1 s2 : CS} {h2 pm2 mm2} (n1 : NewCells h s s1 h2 pm2 mm2)
    (n2 : NewCells h s1 s2 h2 pm2 mm2) (ep : Ext s1.pmemo s2.pmemo) (em : Ext s1.mmemo s2.mmemo) :
    NewCells h s s2 h2 pm2 mm2 := by
  constructor
  · intro a a' hl h0
    cases h1 : lookup s1.pmemo a with
    | none => exact n2.1 a a' hl h1
    | some b =>
      have := ep a b h1
      rw [hl] at this; cases this
      exact n1.1 a a' h1 h0
  · intro a a' hl h0
    cases h1 : lookup s1.mmemo a with
    | none => exact n2.2 a a' hl h1
    | some b =>
      have := em a b h1
      rw [hl] at this; cases this
      exact n1.2 a a' h1 h0

theorem Fut.split {s s1 s2 : CS} {h2 pm2 mm2 x} (hF : Fut s s2 h2 pm2 mm2) (hp : Pres x s1 s2)
    (hlen : s.heap.length ≤ s1.heap.length) (hx : ∀ a', x = some a' → a' < s.heap.length) :
    Fut s s1 h2 pm2 mm2 ∧ Fut s1 s2 h2 pm2 mm2 := by
  refine ⟨⟨hp.pm.trans hF.pm, hp.mm.trans hF.mm, fun a h1 h2' => ?_⟩, ⟨hF.pm, hF.mm, fun a h1 h2' => ?_⟩⟩
  · rw [hF.agree a h1 (Nat.lt_of_lt_of_le h2' hp.len)]
    exact hp.keep a h2' (fun he => by have := hx a he; omega)
  · exact hF.agree a (Nat.le_trans hlen h1) h2'

/-- for the rules that append a cell and run on it: the rule's last state `s3` differs from the inner run's `s2`
at most in the new cell -/
theorem Fut.of_append {s s2 s3 : CS} {c : Cell} {pm mm h2 pm2 mm2} (hF : Fut s s3 h2 pm2 mm2)
    (hpm : s3.pmemo = s2.pmemo) (hmm : s3.mmemo = s2.mmemo) (hlen : s3.heap.length = s2.heap.length)
    (hag : ∀ a, s.heap.length < a → s3.heap[a]? = s2.heap[a]?) :
    Fut { heap := s.heap ++ [c], pmemo := pm, mmemo := mm } s2 h2 pm2 mm2 :=
  ⟨hpm ▸ hF.pm, hmm ▸ hF.mm, fun a h1 h2' => by
    simp only [List.length_append, List.length_singleton] at h1
    rw [hF.agree a (by omega) (by omega), hag a (by omega)]⟩

theorem run_iso {h h2 : Heap} {pm2 mm2 : List (Nat × Nat)} {s t s' r} (hr : Run h s t s' r)
    (ht : ∀ a', t.tgt = some a' → a' < s.heap.length) (hF : Fut s s' h2 pm2 mm2) :
    SimRes h h2 pm2 mm2 t r ∧ NewCells h s s' h2 pm2 mm2 := by
  induction hr with
  | sc => exact ⟨.sc _, NewCells.refl ..⟩
  | nil | fsNil | entsNil | elemsNil => exact ⟨.nil, NewCells.refl ..⟩
  | ptrDang _ _ d | mpDang _ _ d | slDang _ d => exact d.elim
  | ptrHit hl => exact ⟨.ptr _ _ (hF.pm _ _ hl), NewCells.refl ..⟩
  | mpHit hl => exact ⟨.mp _ _ (hF.mm _ _ hl), NewCells.refl ..⟩
  | @ptrNew s a v s2 v' hl hv0 hv hrun ih =>
    have hp := run_pres hrun
    have hlen : s.heap.length + 1 ≤ s2.heap.length := by simpa using hp.len
    obtain ⟨hsim, hnew⟩ := ih nofun (hF.of_append rfl rfl (by simp) fun b hb => setCell_ne _ _ (by omega))
    have hla : lookup s2.pmemo a = some s.heap.length := hp.pm a _ (by simp [lookup_cons])
    refine ⟨.ptr a _ (hF.pm a _ hla), fun b b' hb h0 => ?_, hnew.2⟩
    by_cases hab : a = b
    · subst hab
      rw [show lookup _ a = _ from hla] at hb; cases hb
      refine ⟨v, v', hv0, ?_, hsim⟩
      rw [hF.agree _ (Nat.le_refl _) (by simp; omega)]
      exact setCell_eq _ _ (by omega)
    · exact hnew.1 b b' hb (by simp [lookup_cons, hab, h0])
  | @mpNew s a es s2 es' hl hv0 hv hrun ih =>
    have hp := run_pres hrun
    have hlen : s.heap.length + 1 ≤ s2.heap.length := by simpa using hp.len
    obtain ⟨hsim, hnew⟩ := ih (by simp [Task.tgt]) (hF.of_append rfl rfl rfl fun _ _ => rfl)
    have htg := run_tgt hrun (by simp [Task.tgt]) [] (by simp)
    have hla : lookup s2.mmemo a = some s.heap.length := hp.mm a _ (by simp [lookup_cons])
    refine ⟨.mp a _ (hF.mm a _ hla), hnew.1, fun b b' hb h0 => ?_⟩
    by_cases hab : a = b
    · subst hab
      rw [hla] at hb; cases hb
      refine ⟨es, es', hv0, ?_, hsim⟩
      rw [hF.agree _ (Nat.le_refl _) (by omega)]
      simpa using htg
    · exact hnew.2 b b' hb (by simp [lookup_cons, hab, h0])
  | @slNew s a len es s2 es' hv0 hv hrun ih =>
    have hp := run_pres hrun
    have hlen : s.heap.length + 1 ≤ s2.heap.length := by simpa using hp.len
    obtain ⟨hsim, hnew⟩ := ih (by simp [Task.tgt]) (hF.of_append rfl rfl rfl fun _ _ => rfl)
    have htg := run_tgt hrun (by simp [Task.tgt]) (es.map fun _ => .nil) (by simp)
    rw [setFrom_full _ _ (by simp [SimList.length_eq _ _ hsim])] at htg
    refine ⟨.sl a _ len es es' hv0 ?_ hsim, hnew⟩
    rw [hF.agree _ (Nat.le_refl _) (by omega)]
    exact htg
  | st _ ih => exact (ih ht hF).imp_left (.st _ _)
  | ar _ ih => exact (ih ht hF).imp_left (.ar _ _)
  | ifc _ ih => exact (ih ht hF).imp_left (.ifc _ _)
  | fsConsU _ ih => exact (ih ht hF).imp_left (.consU _ _ _)
  | fsConsE h1 h2r ih1 ih2 =>
    have p2 := run_pres h2r
    obtain ⟨hF1, hF2⟩ := hF.split p2 (run_pres h1).len nofun
    obtain ⟨hs1, hn1⟩ := ih1 ht hF1
    obtain ⟨hs2, hn2⟩ := ih2 nofun hF2
    exact ⟨.consE _ _ _ _ hs1 hs2, hn1.comp hn2 p2.pm p2.mm⟩
  | @entsCons s a' _ _ _ _ k' s2 v' _ _ h1 h2r h3 ih1 ih2 ih3 =>
    have hlt : a' < s.heap.length := ht a' rfl
    have p1 := run_pres h1
    have p2 := run_pres h2r
    have p3 := run_pres h3
    have hx : ∀ b, some a' = some b → b < s.heap.length := fun b hb => by cases hb; exact hlt
    obtain ⟨hFa, hF3⟩ := hF.split p3 (by simpa using Nat.le_trans p1.len p2.len) hx
    obtain ⟨hFb, _⟩ := hFa.split (Pres.addEntry s2 a' k' v') (Nat.le_trans p1.len p2.len) hx
    obtain ⟨hF1, hF2⟩ := hFb.split p2 p1.len nofun
    obtain ⟨hs1, hn1⟩ := ih1 nofun hF1
    obtain ⟨hs2, hn2⟩ := ih2 nofun hF2
    obtain ⟨hs3, hn3⟩ := ih3 (fun _ hb => by cases hb; simpa using Nat.lt_of_lt_of_le hlt (Nat.le_trans p1.len p2.len)) hF3
    exact ⟨.cons hs1 hs2 hs3, (hn1.comp hn2 p2.pm p2.mm).comp hn3 p3.pm p3.mm⟩
  | @elemsCons s a' i _ _ s1 v' _ _ h1 h2r ih1 ih2 =>
    have hlt : a' < s.heap.length := ht a' rfl
    have p1 := run_pres h1
    have p2 := run_pres h2r
    have hx : ∀ b, some a' = some b → b < s.heap.length := fun b hb => by cases hb; exact hlt
    obtain ⟨hFa, hF2⟩ := hF.split p2 (by simpa using p1.len) hx
    obtain ⟨hF1, _⟩ := hFa.split (Pres.setElem s1 a' i v') p1.len hx
    obtain ⟨hs1, hn1⟩ := ih1 nofun hF1
    obtain ⟨hs2, hn2⟩ := ih2 (fun _ hb => by cases hb; simpa using Nat.lt_of_lt_of_le hlt p1.len) hF2
    exact ⟨.cons _ _ _ _ hs1 hs2, hn1.comp hn2 p2.pm p2.mm⟩

def unmemo (m : List (Nat × Nat)) : Nat → Nat
  | 0 => 0
  | n + 1 => unmemo m n + (if lookup m n = none then 1 else 0)

theorem Ext.none {m m'} (he : Ext m m') {a : Nat} (h : lookup m' a = none) : lookup m a = none := by
  cases h1 : lookup m a with
  | none => rfl
  | some b => rw [he a b h1] at h; cases h

theorem unmemo_mono {m m'} (he : Ext m m') : ∀ n, unmemo m' n ≤ unmemo m n := by
  intro n
  induction n with
  | zero => simp [unmemo]
  | succ n ih =>
    simp only [unmemo]
    by_cases h : lookup m' n = none
    · simp [h, he.none h]; exact ih
    · simp [h]; split <;> omega

theorem unmemo_lt {m m'} (he : Ext m m') {a : Nat} (h0 : lookup m a = none) (h1 : lookup m' a ≠ none) :
    ∀ n, a < n → unmemo m' n < unmemo m n := by
  intro n
  induction n with
  | zero => intro h; omega
  | succ n ih =>
    intro han
    simp only [unmemo]
    by_cases hn : a = n
    · subst hn
      have := unmemo_mono he a
      simp [h0, h1]; omega
    · have := ih (by omega)
      by_cases h : lookup m' n = none
      · simp [h, he.none h]; exact this
      · simp [h]; split <;> omega

theorem unmemo_cons_lt {m : List (Nat × Nat)} {a b n : Nat} (h0 : lookup m a = none) (ha : a < n) :
    unmemo ((a, b) :: m) n < unmemo m n :=
  unmemo_lt (Ext.cons h0) h0 (by simp [lookup_cons]) n ha

def mu (h : Heap) (s : CS) : Nat := unmemo s.pmemo h.length + unmemo s.mmemo h.length

theorem mu_mono {h : Heap} {s s' : CS} {x} (hp : Pres x s s') : mu h s' ≤ mu h s := by
  have := unmemo_mono hp.pm h.length
  have := unmemo_mono hp.mm h.length
  simp only [mu]; omega

noncomputable def Task.size : Task → Nat
  | .v w => sizeOf w
  | .fs ws => sizeOf ws
  | .ents _ es => sizeOf es
  | .elems _ _ es => sizeOf es

def sbTask (k : Nat) : Task → Prop
  | .v v => slicesBelow k v = true
  | .fs fs => slicesBelowFs k fs = true
  | .ents _ es => ∀ p ∈ es, slicesBelow k p.1 = true ∧ slicesBelow k p.2 = true
  | .elems _ _ es => ∀ v ∈ es, slicesBelow k v = true

mutual
theorem okV_slicesBelow (h : Heap) : ∀ v, okV h v = true → slicesBelow h.length v = true
  | .sc _, _ => rfl
  | .nil, _ => rfl
  | .ptr _, _ => rfl
  | .mp _, _ => rfl
  | .sl a len, hk => by
    obtain ⟨es, he⟩ := okV_sl hk
    simp [slicesBelow, lt_of_getElem? he]
  | .st fs, hk => by
    simp only [okV] at hk; simp only [slicesBelow]; exact okFs_slicesBelowFs h fs hk
  | .ar fs, hk => by
    simp only [okV] at hk; simp only [slicesBelow]; exact okFs_slicesBelowFs h fs hk
  | .ifc d, hk => by
    simp only [okV] at hk; simp only [slicesBelow]; exact okV_slicesBelow h d hk
theorem okFs_slicesBelowFs (h : Heap) : ∀ fs, okFs h fs = true → slicesBelowFs h.length fs = true
  | .nil, _ => rfl
  | .cons _ v rest, hk => by
    simp only [okFs, Bool.and_eq_true] at hk
    simp only [slicesBelowFs, Bool.and_eq_true]
    exact ⟨okV_slicesBelow h v hk.1, okFs_slicesBelowFs h rest hk.2⟩
end

theorem okTask_sb {h : Heap} {t : Task} (hk : okTask h t) : sbTask h.length t := by
  cases t with
  | v v => exact okV_slicesBelow h v hk
  | fs fs => exact okFs_slicesBelowFs h fs hk
  | ents a' es => exact fun p hp => ⟨okV_slicesBelow h _ (hk.2 p hp).1, okV_slicesBelow h _ (hk.2 p hp).2⟩
  | elems a' i es => exact fun p hp => okV_slicesBelow h _ (hk.2 p hp)

def Runs (h : Heap) (s : CS) : Task → Prop
  | .v v => ∃ s' v', Run h s (.v v) s' (.v v')
  | .fs fs => ∃ s' fs', Run h s (.fs fs) s' (.fs fs')
  | .ents a' es => ∃ s' es', Run h s (.ents a' es) s' (.ents es')
  | .elems a' i es => ∃ s' es', Run h s (.elems a' i es) s' (.elems es')

/-- Lexicographic induction on: the number `m` of cells of `h` not yet in a memo (a pointer or map seen for
the first time), the bound `k` on the backing arrays a slice may still enter (`SliceOrdered`), the size `n` of
the task (everything else). -/
theorem run_exists {h : Heap} (hcells : CellsOK h) (hso : SliceOrdered h) :
    ∀ m k n s t, Ctx h s → okTask h t → mu h s ≤ m → sbTask k t → t.size < n → Runs h s t := by
  intro m
  induction m using Nat.strongRecOn with
  | ind m ihm =>
  intro k
  induction k using Nat.strongRecOn with
  | ind k ihk =>
  intro n
  induction n with
  | zero => intro s t _ _ _ _ hn; omega
  | succ n ihn =>
  intro s t hc hk hm hsb hn
  cases t with
  | v w =>
    cases w with
    | sc x => exact ⟨_, _, .sc⟩
    | nil => exact ⟨_, _, .nil⟩
    | ptr a =>
      cases hl : lookup s.pmemo a with
      | some a' => exact ⟨_, _, .ptrHit hl⟩
      | none =>
        obtain ⟨v0, hv0⟩ := okV_ptr hk
        have hmu : mu h { s with heap := s.heap ++ [.val .nil], pmemo := (a, s.heap.length) :: s.pmemo } < mu h s :=
          Nat.add_lt_add_right (unmemo_cons_lt hl (lt_of_getElem? hv0)) _
        have hk0 : okTask h (.v v0) := hcells.val hv0
        obtain ⟨s2, v', hr⟩ := ihm _ (Nat.lt_of_lt_of_le hmu hm) h.length _ _ (.v v0)
          (hc.append ..) hk0 (Nat.le_refl _) (okTask_sb hk0) (Nat.lt_succ_self _)
        exact ⟨_, _, .ptrNew hl hv0 (hc.get hv0) hr⟩
    | mp a =>
      cases hl : lookup s.mmemo a with
      | some a' => exact ⟨_, _, .mpHit hl⟩
      | none =>
        obtain ⟨v0, hv0⟩ := okV_mp hk
        have hmu : mu h { s with heap := s.heap ++ [.mapc []], mmemo := (a, s.heap.length) :: s.mmemo } < mu h s :=
          Nat.add_lt_add_left (unmemo_cons_lt hl (lt_of_getElem? hv0)) _
        have hk0 : okTask h (.ents s.heap.length v0) := ⟨hc.len, hcells.mapc hv0⟩
        obtain ⟨s2, es', hr⟩ := ihm _ (Nat.lt_of_lt_of_le hmu hm) h.length _ _ (.ents s.heap.length v0)
          (hc.append ..) hk0 (Nat.le_refl _) (okTask_sb hk0) (Nat.lt_succ_self _)
        exact ⟨_, _, .mpNew hl hv0 (hc.get hv0) hr⟩
    | sl a len =>
      obtain ⟨v0, hv0⟩ := okV_sl hk
      have hak : a < k := by simpa [sbTask, slicesBelow] using hsb
      obtain ⟨s2, es', hr⟩ := ihk a hak _ { s with heap := s.heap ++ [.arr (v0.map fun _ => .nil)] }
        (.elems s.heap.length 0 v0) (hc.append ..) ⟨hc.len, hcells.arr hv0⟩ hm (hso a v0 hv0) (Nat.lt_succ_self _)
      exact ⟨_, _, .slNew (len := len) hv0 (hc.get hv0) hr⟩
    | st fs =>
      obtain ⟨s2, fs', hr⟩ := ihn s (.fs fs) hc hk hm hsb (by simp [Task.size] at hn ⊢; omega)
      exact ⟨_, _, .st hr⟩
    | ar fs =>
      obtain ⟨s2, fs', hr⟩ := ihn s (.fs fs) hc hk hm hsb (by simp [Task.size] at hn ⊢; omega)
      exact ⟨_, _, .ar hr⟩
    | ifc d =>
      obtain ⟨s2, d', hr⟩ := ihn s (.v d) hc hk hm hsb (by simp [Task.size] at hn ⊢; omega)
      exact ⟨_, _, .ifc hr⟩
  | fs ws =>
    cases ws with
    | nil => exact ⟨_, _, .fsNil⟩
    | cons ex w rest =>
      simp only [okTask, okFs, Bool.and_eq_true] at hk
      simp only [sbTask, slicesBelowFs, Bool.and_eq_true] at hsb
      simp only [Task.size, HFs.cons.sizeOf_spec] at hn
      cases ex with
      | false =>
        obtain ⟨s2, rest', hr⟩ := ihn s (.fs rest) hc hk.2 hm hsb.2 (by simp only [Task.size]; omega)
        exact ⟨_, _, .fsConsU hr⟩
      | true =>
        obtain ⟨s1, w', hr1⟩ := ihn s (.v w) hc hk.1 hm hsb.1 (by simp only [Task.size]; omega)
        have p1 := run_pres hr1
        obtain ⟨s2, rest', hr2⟩ := ihn s1 (.fs rest) (hc.pres p1 nofun) hk.2
          (Nat.le_trans (mu_mono p1) hm) hsb.2 (by simp only [Task.size]; omega)
        exact ⟨_, _, .fsConsE hr1 hr2⟩
  | ents a' es =>
    cases es with
    | nil => exact ⟨_, _, .entsNil⟩
    | cons p rest =>
      obtain ⟨kk, vv⟩ := p
      obtain ⟨hle, hall⟩ := hk
      have hkv := hall (kk, vv) (by simp)
      have hsbkv := hsb (kk, vv) (by simp)
      simp only [Task.size, List.cons.sizeOf_spec, Prod.mk.sizeOf_spec] at hn
      obtain ⟨s1, k', hr1⟩ := ihn s (.v kk) hc hkv.1 hm hsbkv.1 (by simp only [Task.size]; omega)
      have p1 := run_pres hr1
      have hc1 := hc.pres p1 nofun
      obtain ⟨s2, v', hr2⟩ := ihn s1 (.v vv) hc1 hkv.2 (Nat.le_trans (mu_mono p1) hm) hsbkv.2
        (by simp only [Task.size]; omega)
      have p2 := run_pres hr2
      have pmid := Pres.addEntry s2 a' k' v'
      obtain ⟨s3, rest', hr3⟩ := ihn { s2 with heap := addEntry s2.heap a' k' v' } (.ents a' rest)
        ((hc1.pres p2 nofun).pres pmid (by simpa using hle))
        ⟨hle, fun p hp => hall p (List.mem_cons_of_mem _ hp)⟩
        (Nat.le_trans (mu_mono pmid) (Nat.le_trans (mu_mono p2) (Nat.le_trans (mu_mono p1) hm)))
        (fun p hp => hsb p (List.mem_cons_of_mem _ hp)) (by simp only [Task.size]; omega)
      exact ⟨_, _, .entsCons hr1 hr2 hr3⟩
  | elems a' i es =>
    cases es with
    | nil => exact ⟨_, _, .elemsNil⟩
    | cons w rest =>
      obtain ⟨hle, hall⟩ := hk
      simp only [Task.size, List.cons.sizeOf_spec] at hn
      obtain ⟨s1, w', hr1⟩ := ihn s (.v w) hc (hall w (by simp)) hm (hsb w (by simp)) (by simp only [Task.size]; omega)
      have p1 := run_pres hr1
      have pmid := Pres.setElem s1 a' i w'
      obtain ⟨s2, rest', hr2⟩ := ihn { s1 with heap := setElem s1.heap a' i w' } (.elems a' (i + 1) rest)
        ((hc.pres p1 nofun).pres pmid (by simpa using hle))
        ⟨hle, fun p hp => hall p (List.mem_cons_of_mem _ hp)⟩
        (Nat.le_trans (mu_mono pmid) (Nat.le_trans (mu_mono p1) hm))
        (fun p hp => hsb p (List.mem_cons_of_mem _ hp)) (by simp only [Task.size]; omega)
      exact ⟨_, _, .elemsCons hr1 hr2⟩

end Dials.Heap
