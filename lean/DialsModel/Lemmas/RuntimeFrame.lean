/-
What every proof about the runtime model uses: the client table; for each helper of `step` the fields it can
change (`X_shape`); `runMon`, `runCb`, `runClient` and `step` as relations with one constructor for each case
(`MonStep`, `CbStep`, `ClStep`, `Step`); and summaries of the steps: `Frame` for those that leave the monitor's
data alone, `MonBody` for the monitor's steps below the top of its loop by their effect (`MonEff`), `step_cases`
which splits a step into these two, and what a monitor step does to the callback goroutine's side
(`MonStep.cb_side`), to the Events channel and to the log (`MonStep.log_ext`).
-/
import DialsModel.Model.RuntimeSpec

namespace Dials.Runtime

theorem getC_nil (c : Nat) : getC [] c = .idle := rfl

theorem getC_cons (d : Nat) (x : CSt) (rest : List (Nat × CSt)) (c : Nat) :
    getC ((d, x) :: rest) c = if d == c then x else getC rest c := by
  simp only [getC, List.find?_cons]
  cases d == c <;> rfl

theorem getC_setC_self (cs : List (Nat × CSt)) (c : Nat) (st : CSt) : getC (setC cs c st) c = st := by
  induction cs with
  | nil => simp [setC, getC_cons]
  | cons p rest ih =>
    obtain ⟨d, x⟩ := p
    simp only [setC]
    split
    · next h => simp [getC_cons, h]
    · next h => simp [getC_cons, h, ih]

theorem getC_setC_ne (cs : List (Nat × CSt)) (c d : Nat) (st : CSt) (h : d ≠ c) :
    getC (setC cs c st) d = getC cs d := by
  induction cs with
  | nil => simp [setC, getC_cons, getC_nil, Ne.symm h]
  | cons p rest ih =>
    obtain ⟨e, x⟩ := p
    simp only [setC]
    split
    · next he =>
      have hec : e = c := by simpa using he
      simp [getC_cons, hec, Ne.symm h]
    · simp only [getC_cons, ih]

theorem mem_setC {cs : List (Nat × CSt)} {c : Nat} {st : CSt} {p : Nat × CSt}
    (h : p ∈ setC cs c st) : p ∈ cs ∨ p = (c, st) := by
  induction cs with
  | nil => simp [setC] at h; exact Or.inr h
  | cons q rest ih =>
    obtain ⟨d, x⟩ := q
    simp only [setC] at h
    split at h
    · next hd =>
      have hd' : d = c := by simpa using hd
      rcases List.mem_cons.mp h with h | h
      · right; rw [h, hd']
      · left; exact List.mem_cons_of_mem _ h
    · rcases List.mem_cons.mp h with h | h
      · left; rw [h]; exact List.mem_cons_self
      · rcases ih h with h | h
        · left; exact List.mem_cons_of_mem _ h
        · right; exact h

def AllC (Q : CSt → Prop) (cs : List (Nat × CSt)) : Prop := ∀ p ∈ cs, Q p.2

theorem setC_all {Q : CSt → Prop} {cs : List (Nat × CSt)} {c : Nat} {st : CSt}
    (h : AllC Q cs) (hst : Q st) : AllC Q (setC cs c st) := by
  intro p hp
  rcases mem_setC hp with hp | hp
  · exact h p hp
  · rw [hp]; exact hst

theorem getC_mem {cs : List (Nat × CSt)} {c : Nat} {st : CSt} (h : getC cs c = st) (hne : st ≠ .idle) :
    (c, st) ∈ cs := by
  induction cs with
  | nil => exact absurd h.symm hne
  | cons p rest ih =>
    obtain ⟨d, x⟩ := p
    rw [getC_cons] at h
    split at h
    · next hd => rw [← h, ← (beq_iff_eq.mp hd)]; exact List.mem_cons_self
    · exact List.mem_cons_of_mem _ (ih h)

theorem getC_map_of_ne_idle (f : Nat × CSt → Nat × CSt) (hf : ∀ p, (f p).1 = p.1)
    (cs : List (Nat × CSt)) (c : Nat) (h : getC cs c ≠ .idle) :
    getC (cs.map f) c = (f (c, getC cs c)).2 := by
  induction cs with
  | nil => exact absurd rfl h
  | cons p rest ih =>
    obtain ⟨d, x⟩ := p
    have e : f (d, x) = (d, (f (d, x)).2) := Prod.ext (hf (d, x)) rfl
    rw [List.map_cons, e, getC_cons, getC_cons]
    rw [getC_cons] at h
    split
    · next hd =>
      have hd' : d = c := by simpa using hd
      subst hd'; rfl
    · next hd =>
      simp only [hd] at h
      exact ih h

/- Parts that the model writes inline, named so that the step relations below can mention them: `errRes`
(`runMon` at `.replyErr`), `enableSwitch` and `respondTo` (at `.enableReply`), `release` (at `.exit`), `cbPre` and
`cbCalls` (`runCb` at `.got`), `offerCtl` (`runClient` at `.enable` with the delay in force), `wake` (`cancelCtx`). -/

def errRes : ErrK → Res
  | .stack => .errStack
  | _ => .errVerify

def enableSwitch (s : State) (ok noop : Bool) : State :=
  if noop then s else { s with skipVerify := !ok }.logAdd (.enabled ok s.view)

def respondTo (s : State) (c tok : Nat) (r : Res) : State :=
  match getC s.clients c with
  | .waitResp k => if k == tok then s.ret c r else s
  | _ => s

def release (p : Nat × CSt) : Nat × CSt :=
  match p.2 with
  | .sendCb (.unreg _ _ _) _ => (p.1, CSt.returned .unregFalse)
  | .sendCb _ _ => (p.1, CSt.returned .regFail)
  | .waitDone _ => (p.1, CSt.returned .unregFalse)
  | _ => p

def cbPre (s : State) (ev : CbEv) : State :=
  let s := match ev with
    | .newCfg _ new _ => { s with lastSerial := new.serial, lastVersion := some new.cfg }
    | .reg h ser _ => s.logAdd (.regProcessed h ser s.lastSerial)
    | _ => s
  match ev with
  | .newCfg _ _ suppressed => if Facts.globalGate suppressed then s else s.logAdd (.withheld ev s.skipVerify)
  | _ => s

def cbCalls (s : State) (ev : CbEv) : List Call :=
  callsFor (cbPre s ev).handles (cbPre s ev).lastSerial (cbPre s ev).lastVersion ev

def offerCtl (s : State) (c ctx choice : Nat) : State :=
  let cancelled := s.isCancelled ctx
  let room := s.mon == .sel || s.monCtl.length < capMonCtl
  let s := s.logAdd (.enableCalled c)
  if room && !(cancelled && choice == 1) then
    let s := s.waitOr c ctx (.waitResp ctx) .ctxErr
    if s.mon == .sel then { s with mon := .gotEnable c ctx } else { s with monCtl := s.monCtl ++ [(c, ctx)] }
  else if cancelled then s.ret c .ctxErr
  else s.blockClient c (.sendCtl ctx)

def wake (ctx : Nat) : Nat × CSt → Nat × CSt := fun p =>
    match p.2 with
    | .sendW _ k => if k == ctx then (p.1, .returned .ctxErr) else p
    | .waitReply k => if k == ctx then (p.1, .returned .ctxErr) else p
    | .sendCb (.unreg _ _ _) k => if k == ctx then (p.1, .returned .unregFalse) else p
    | .sendCb _ k => if k == ctx then (p.1, .returned .regFail) else p
    | .waitDone k => if k == ctx then (p.1, .returned .unregFalse) else p
    | .sendCtl k => if k == ctx then (p.1, .returned .ctxErr) else p
    | .waitResp k => if k == ctx then (p.1, .returned .ctxErr) else p
    | _ => p

section proj
variable (s : State) (c : Nat) (r : Res) (o : Obs) (st : CSt) (ctx : Nat) (ev : CbEv) (ch : Nat)

@[simp] theorem logAdd_view (s : State) (o : Obs) : (s.logAdd o).view = s.view := rfl
@[simp] theorem logAdd_slots (s : State) (o : Obs) : (s.logAdd o).slots = s.slots := rfl
@[simp] theorem logAdd_skipVerify (s : State) (o : Obs) : (s.logAdd o).skipVerify = s.skipVerify := rfl
@[simp] theorem logAdd_mon (s : State) (o : Obs) : (s.logAdd o).mon = s.mon := rfl
@[simp] theorem logAdd_cb (s : State) (o : Obs) : (s.logAdd o).cb = s.cb := rfl
@[simp] theorem logAdd_handles : (s.logAdd o).handles = s.handles := rfl
@[simp] theorem logAdd_cbch (s : State) (o : Obs) : (s.logAdd o).cbch = s.cbch := rfl
@[simp] theorem logAdd_monCtl (s : State) (o : Obs) : (s.logAdd o).monCtl = s.monCtl := rfl
@[simp] theorem logAdd_clients (s : State) (o : Obs) : (s.logAdd o).clients = s.clients := rfl
@[simp] theorem logAdd_cancelled : (s.logAdd o).cancelled = s.cancelled := rfl
@[simp] theorem logAdd_monDone : (s.logAdd o).monDone = s.monDone := rfl

@[simp] theorem setClient_P (s : State) (c : Nat) (st : CSt) : (s.setClient c st).P = s.P := rfl
@[simp] theorem setClient_view (s : State) (c : Nat) (st : CSt) : (s.setClient c st).view = s.view := rfl
@[simp] theorem setClient_slots (s : State) (c : Nat) (st : CSt) : (s.setClient c st).slots = s.slots := rfl
@[simp] theorem setClient_watching (s : State) (c : Nat) (st : CSt) : (s.setClient c st).watching = s.watching := rfl
@[simp] theorem setClient_skipVerify (s : State) (c : Nat) (st : CSt) : (s.setClient c st).skipVerify = s.skipVerify := rfl
@[simp] theorem setClient_mon (s : State) (c : Nat) (st : CSt) : (s.setClient c st).mon = s.mon := rfl
@[simp] theorem setClient_cb (s : State) (c : Nat) (st : CSt) : (s.setClient c st).cb = s.cb := rfl
@[simp] theorem setClient_handles : (s.setClient c st).handles = s.handles := rfl
@[simp] theorem setClient_cbch (s : State) (c : Nat) (st : CSt) : (s.setClient c st).cbch = s.cbch := rfl
@[simp] theorem setClient_monCtl (s : State) (c : Nat) (st : CSt) : (s.setClient c st).monCtl = s.monCtl := rfl
@[simp] theorem setClient_cancelled : (s.setClient c st).cancelled = s.cancelled := rfl
@[simp] theorem setClient_monDone : (s.setClient c st).monDone = s.monDone := rfl
@[simp] theorem setClient_log (s : State) (c : Nat) (st : CSt) : (s.setClient c st).log = s.log := rfl

@[simp] theorem blockClient_P (s : State) (c : Nat) (st : CSt) : (s.blockClient c st).P = s.P := rfl
@[simp] theorem blockClient_view (s : State) (c : Nat) (st : CSt) : (s.blockClient c st).view = s.view := rfl
@[simp] theorem blockClient_slots (s : State) (c : Nat) (st : CSt) : (s.blockClient c st).slots = s.slots := rfl
@[simp] theorem blockClient_watching (s : State) (c : Nat) (st : CSt) : (s.blockClient c st).watching = s.watching := rfl
@[simp] theorem blockClient_skipVerify (s : State) (c : Nat) (st : CSt) : (s.blockClient c st).skipVerify = s.skipVerify := rfl
@[simp] theorem blockClient_mon (s : State) (c : Nat) (st : CSt) : (s.blockClient c st).mon = s.mon := rfl
@[simp] theorem blockClient_cb (s : State) (c : Nat) (st : CSt) : (s.blockClient c st).cb = s.cb := rfl
@[simp] theorem blockClient_handles : (s.blockClient c st).handles = s.handles := rfl
@[simp] theorem blockClient_cbch (s : State) (c : Nat) (st : CSt) : (s.blockClient c st).cbch = s.cbch := rfl
@[simp] theorem blockClient_monCtl (s : State) (c : Nat) (st : CSt) : (s.blockClient c st).monCtl = s.monCtl := rfl
@[simp] theorem blockClient_monDone : (s.blockClient c st).monDone = s.monDone := rfl
@[simp] theorem blockClient_log (s : State) (c : Nat) (st : CSt) : (s.blockClient c st).log = s.log := rfl

@[simp] theorem ret_P (s : State) (c : Nat) (r : Res) : (s.ret c r).P = s.P := rfl
@[simp] theorem ret_view (s : State) (c : Nat) (r : Res) : (s.ret c r).view = s.view := rfl
@[simp] theorem ret_slots (s : State) (c : Nat) (r : Res) : (s.ret c r).slots = s.slots := rfl
@[simp] theorem ret_watching (s : State) (c : Nat) (r : Res) : (s.ret c r).watching = s.watching := rfl
@[simp] theorem ret_skipVerify (s : State) (c : Nat) (r : Res) : (s.ret c r).skipVerify = s.skipVerify := rfl
@[simp] theorem ret_mon (s : State) (c : Nat) (r : Res) : (s.ret c r).mon = s.mon := rfl
@[simp] theorem ret_cb (s : State) (c : Nat) (r : Res) : (s.ret c r).cb = s.cb := rfl
@[simp] theorem ret_handles : (s.ret c r).handles = s.handles := rfl
@[simp] theorem ret_cbch (s : State) (c : Nat) (r : Res) : (s.ret c r).cbch = s.cbch := rfl
@[simp] theorem ret_monCtl (s : State) (c : Nat) (r : Res) : (s.ret c r).monCtl = s.monCtl := rfl
@[simp] theorem ret_cancelled : (s.ret c r).cancelled = s.cancelled := rfl
@[simp] theorem ret_monDone : (s.ret c r).monDone = s.monDone := rfl

@[simp] theorem cbTake_P (s : State) (ev : CbEv) : (cbTake s ev).P = s.P := rfl
@[simp] theorem cbTake_view (s : State) (ev : CbEv) : (cbTake s ev).view = s.view := rfl
@[simp] theorem cbTake_slots (s : State) (ev : CbEv) : (cbTake s ev).slots = s.slots := rfl
@[simp] theorem cbTake_watching (s : State) (ev : CbEv) : (cbTake s ev).watching = s.watching := rfl
@[simp] theorem cbTake_skipVerify (s : State) (ev : CbEv) : (cbTake s ev).skipVerify = s.skipVerify := rfl
@[simp] theorem cbTake_mon (s : State) (ev : CbEv) : (cbTake s ev).mon = s.mon := rfl
@[simp] theorem cbTake_monCtl (s : State) (ev : CbEv) : (cbTake s ev).monCtl = s.monCtl := rfl
@[simp] theorem cbTake_clients (s : State) (ev : CbEv) : (cbTake s ev).clients = s.clients := rfl
@[simp] theorem cbTake_log (s : State) (ev : CbEv) : (cbTake s ev).log = s.log := rfl

@[simp] theorem ret_clients : (s.ret c r).clients = setC s.clients c (.returned r) := rfl
@[simp] theorem setClient_clients : (s.setClient c st).clients = setC s.clients c st := rfl
@[simp] theorem isCancelled_ret : (s.ret c r).isCancelled ctx = s.isCancelled ctx := rfl
@[simp] theorem isCancelled_logAdd : (s.logAdd o).isCancelled ctx = s.isCancelled ctx := rfl
@[simp] theorem isCancelled_setClient :
    (s.setClient c st).isCancelled ctx = s.isCancelled ctx := rfl

/- `X_shape`: the helper `X` rewrites only the fields named on the right.  The projection lemmas are its instances,
and any other field of `X s ..` is read off by `rw [X_shape]`. -/
theorem waitOr_shape (s : State) (c : Nat) (st : CSt) (ctx : Nat) (fail : Res) :
    s.waitOr c ctx st fail = { s with clients := (s.waitOr c ctx st fail).clients, log := (s.waitOr c ctx st fail).log } := by
  unfold State.waitOr; split <;> rfl

@[simp] theorem waitOr_handles (fail : Res) : (s.waitOr c ctx st fail).handles = s.handles := by rw [waitOr_shape]
@[simp] theorem waitOr_monCtl (fail : Res) : (s.waitOr c ctx st fail).monCtl = s.monCtl := by rw [waitOr_shape]
@[simp] theorem waitOr_cancelled (fail : Res) : (s.waitOr c ctx st fail).cancelled = s.cancelled := by rw [waitOr_shape]

theorem finishEv_shape (s : State) (ev : CbEv) :
    finishEv s ev = { s with handles := (finishEv s ev).handles, clients := (finishEv s ev).clients, log := (finishEv s ev).log } := by
  unfold finishEv
  split
  · rfl
  · rfl
  · rfl
  · dsimp only
    split
    · split <;> rfl
    · rfl

@[simp] theorem finishEv_P (s : State) (ev : CbEv) : (finishEv s ev).P = s.P := by rw [finishEv_shape]
@[simp] theorem finishEv_view (s : State) (ev : CbEv) : (finishEv s ev).view = s.view := by rw [finishEv_shape]
@[simp] theorem finishEv_slots (s : State) (ev : CbEv) : (finishEv s ev).slots = s.slots := by rw [finishEv_shape]
@[simp] theorem finishEv_watching (s : State) (ev : CbEv) : (finishEv s ev).watching = s.watching := by rw [finishEv_shape]
@[simp] theorem finishEv_skipVerify (s : State) (ev : CbEv) : (finishEv s ev).skipVerify = s.skipVerify := by rw [finishEv_shape]
@[simp] theorem finishEv_mon (s : State) (ev : CbEv) : (finishEv s ev).mon = s.mon := by rw [finishEv_shape]
@[simp] theorem finishEv_cb (s : State) (ev : CbEv) : (finishEv s ev).cb = s.cb := by rw [finishEv_shape]
@[simp] theorem finishEv_cbch (s : State) (ev : CbEv) : (finishEv s ev).cbch = s.cbch := by rw [finishEv_shape]
@[simp] theorem finishEv_monCtl (s : State) (ev : CbEv) : (finishEv s ev).monCtl = s.monCtl := by rw [finishEv_shape]
@[simp] theorem finishEv_monDone (s : State) (ev : CbEv) : (finishEv s ev).monDone = s.monDone := by rw [finishEv_shape]

theorem enqueueCb_shape (s : State) (ev : CbEv) :
    enqueueCb s ev = { s with cb := (enqueueCb s ev).cb, cbch := (enqueueCb s ev).cbch } := by
  unfold enqueueCb; split <;> rfl

@[simp] theorem enqueueCb_clients (s : State) (ev : CbEv) : (enqueueCb s ev).clients = s.clients := by rw [enqueueCb_shape]
@[simp] theorem enqueueCb_log (s : State) (ev : CbEv) : (enqueueCb s ev).log = s.log := by rw [enqueueCb_shape]

theorem admitCbSender_shape (s : State) :
    admitCbSender s = { s with cbch := (admitCbSender s).cbch, clients := (admitCbSender s).clients, log := (admitCbSender s).log } := by
  unfold admitCbSender
  split
  · dsimp only
    split
    · rw [waitOr_shape]
    · rfl
    · rfl
  · rfl

@[simp] theorem admitCbSender_P (s : State) : (admitCbSender s).P = s.P := by rw [admitCbSender_shape]
@[simp] theorem admitCbSender_view (s : State) : (admitCbSender s).view = s.view := by rw [admitCbSender_shape]
@[simp] theorem admitCbSender_slots (s : State) : (admitCbSender s).slots = s.slots := by rw [admitCbSender_shape]
@[simp] theorem admitCbSender_watching (s : State) : (admitCbSender s).watching = s.watching := by rw [admitCbSender_shape]
@[simp] theorem admitCbSender_skipVerify (s : State) : (admitCbSender s).skipVerify = s.skipVerify := by rw [admitCbSender_shape]
@[simp] theorem admitCbSender_mon (s : State) : (admitCbSender s).mon = s.mon := by rw [admitCbSender_shape]
@[simp] theorem admitCbSender_monCtl (s : State) : (admitCbSender s).monCtl = s.monCtl := by rw [admitCbSender_shape]
@[simp] theorem admitCbSender_monDone (s : State) : (admitCbSender s).monDone = s.monDone := by rw [admitCbSender_shape]

theorem trySubmit_shape (s : State) (ev : CbEv) (ch : Nat) :
    trySubmit s ev ch = { s with cb := (trySubmit s ev ch).cb, cbch := (trySubmit s ev ch).cbch, log := (trySubmit s ev ch).log } := by
  unfold trySubmit
  split
  · rw [enqueueCb_shape]; rfl
  · rfl

@[simp] theorem trySubmit_mon (s : State) (ev : CbEv) (ch : Nat) : (trySubmit s ev ch).mon = s.mon := by rw [trySubmit_shape]
@[simp] theorem trySubmit_handles : (trySubmit s ev ch).handles = s.handles := by rw [trySubmit_shape]

theorem replyTo_shape (s : State) (c : Nat) (r : Res) :
    replyTo s c r = { s with clients := (replyTo s c r).clients, log := (replyTo s c r).log } := by
  unfold replyTo; dsimp only; split <;> rfl

@[simp] theorem replyTo_mon (s : State) (c : Nat) (r : Res) : (replyTo s c r).mon = s.mon := by rw [replyTo_shape]
@[simp] theorem replyTo_handles : (replyTo s c r).handles = s.handles := by rw [replyTo_shape]
@[simp] theorem replyTo_cbch (s : State) (c : Nat) (r : Res) : (replyTo s c r).cbch = s.cbch := by rw [replyTo_shape]
@[simp] theorem replyTo_monCtl (s : State) (c : Nat) (r : Res) : (replyTo s c r).monCtl = s.monCtl := by rw [replyTo_shape]
@[simp] theorem replyTo_cancelled : (replyTo s c r).cancelled = s.cancelled := by rw [replyTo_shape]
@[simp] theorem replyTo_monDone (s : State) (c : Nat) (r : Res) : (replyTo s c r).monDone = s.monDone := by rw [replyTo_shape]

end proj

theorem admitCtlSender_shape (s : State) :
    admitCtlSender s = { s with monCtl := (admitCtlSender s).monCtl, clients := (admitCtlSender s).clients, log := (admitCtlSender s).log } := by
  unfold admitCtlSender
  split
  · rw [waitOr_shape]
  · rfl

@[simp] theorem admitCtlSender_mon (s : State) : (admitCtlSender s).mon = s.mon := by rw [admitCtlSender_shape]

theorem monTake_shape (s : State) (i : MonIn) :
    monTake s i = { s with mon := (monTake s i).mon, monCtl := (monTake s i).monCtl, clients := (monTake s i).clients, log := (monTake s i).log } := by
  unfold monTake
  split
  · rfl
  · rw [admitCtlSender_shape]
  · dsimp only
    split
    · rw [waitOr_shape]
    · split <;> rfl

@[simp] theorem monTake_P (s : State) (i : MonIn) : (monTake s i).P = s.P := by rw [monTake_shape]
@[simp] theorem monTake_view (s : State) (i : MonIn) : (monTake s i).view = s.view := by rw [monTake_shape]
@[simp] theorem monTake_slots (s : State) (i : MonIn) : (monTake s i).slots = s.slots := by rw [monTake_shape]
@[simp] theorem monTake_watching (s : State) (i : MonIn) : (monTake s i).watching = s.watching := by rw [monTake_shape]
@[simp] theorem monTake_skipVerify (s : State) (i : MonIn) : (monTake s i).skipVerify = s.skipVerify := by rw [monTake_shape]
@[simp] theorem monTake_cb (s : State) (i : MonIn) : (monTake s i).cb = s.cb := by rw [monTake_shape]
@[simp] theorem monTake_cbch (s : State) (i : MonIn) : (monTake s i).cbch = s.cbch := by rw [monTake_shape]

theorem offerW_shape (s : State) (c : Nat) (m : Msg) (ctx ch : Nat) :
    offerW s c m ctx ch = { s with mon := (offerW s c m ctx ch).mon, monCtl := (offerW s c m ctx ch).monCtl, clients := (offerW s c m ctx ch).clients, log := (offerW s c m ctx ch).log } := by
  unfold offerW
  dsimp only
  split
  · rw [monTake_shape]; rfl
  · split <;> rfl

@[simp] theorem offerW_monDone (s : State) (c : Nat) (m : Msg) (ctx ch : Nat) : (offerW s c m ctx ch).monDone = s.monDone := by rw [offerW_shape]

theorem offerCb_shape (s : State) (c : Nat) (ev : CbEv) (ctx ch : Nat) :
    offerCb s c ev ctx ch = { s with cb := (offerCb s c ev ctx ch).cb, cbch := (offerCb s c ev ctx ch).cbch, clients := (offerCb s c ev ctx ch).clients, log := (offerCb s c ev ctx ch).log } := by
  unfold offerCb
  dsimp only
  split
  · rfl
  · split
    · split
      · rw [waitOr_shape, enqueueCb_shape]
      · rw [enqueueCb_shape]; rfl
      · rw [enqueueCb_shape]; rfl
    · split <;> rfl

@[simp] theorem offerCb_monDone (s : State) (c : Nat) (ev : CbEv) (ctx ch : Nat) : (offerCb s c ev ctx ch).monDone = s.monDone := by rw [offerCb_shape]

theorem cancelCtx_shape (s : State) (ctx : Nat) :
    cancelCtx s ctx = { s with mon := (cancelCtx s ctx).mon, clients := (cancelCtx s ctx).clients, cancelled := (cancelCtx s ctx).cancelled } := by
  unfold cancelCtx; dsimp only; split <;> rfl

@[simp] theorem cancelCtx_P (s : State) (ctx : Nat) : (cancelCtx s ctx).P = s.P := by rw [cancelCtx_shape]
@[simp] theorem cancelCtx_view (s : State) (ctx : Nat) : (cancelCtx s ctx).view = s.view := by rw [cancelCtx_shape]
@[simp] theorem cancelCtx_slots (s : State) (ctx : Nat) : (cancelCtx s ctx).slots = s.slots := by rw [cancelCtx_shape]
@[simp] theorem cancelCtx_watching (s : State) (ctx : Nat) : (cancelCtx s ctx).watching = s.watching := by rw [cancelCtx_shape]
@[simp] theorem cancelCtx_skipVerify (s : State) (ctx : Nat) : (cancelCtx s ctx).skipVerify = s.skipVerify := by rw [cancelCtx_shape]
@[simp] theorem cancelCtx_cb (s : State) (ctx : Nat) : (cancelCtx s ctx).cb = s.cb := by rw [cancelCtx_shape]
@[simp] theorem cancelCtx_cbch (s : State) (ctx : Nat) : (cancelCtx s ctx).cbch = s.cbch := by rw [cancelCtx_shape]
@[simp] theorem cancelCtx_monDone (s : State) (ctx : Nat) : (cancelCtx s ctx).monDone = s.monDone := by rw [cancelCtx_shape]

theorem wake_fst (ctx : Nat) (p : Nat × CSt) : (wake ctx p).1 = p.1 := by
  unfold wake
  split <;> (try split) <;> rfl

theorem wake_snd (ctx : Nat) (p : Nat × CSt) : (wake ctx p).2 = p.2 ∨ ∃ r, (wake ctx p).2 = .returned r := by
  unfold wake
  split <;> (try split) <;> first | exact .inl rfl | exact .inr ⟨_, rfl⟩

theorem release_fst (p : Nat × CSt) : (release p).1 = p.1 := by
  unfold release
  split <;> rfl

theorem release_snd (p : Nat × CSt) : (release p).2 = p.2 ∨ ∃ r, (release p).2 = .returned r := by
  unfold release
  split <;> first | exact .inl rfl | exact .inr ⟨_, rfl⟩

theorem cancelCtx_clients (s : State) (ctx : Nat) : (cancelCtx s ctx).clients = s.clients.map (wake ctx) := by
  unfold cancelCtx; dsimp only; split <;> rfl

theorem enableSwitch_shape (s : State) (ok noop : Bool) :
    enableSwitch s ok noop = { s with skipVerify := (enableSwitch s ok noop).skipVerify, log := (enableSwitch s ok noop).log } := by
  unfold enableSwitch; split <;> rfl

theorem respondTo_shape (s : State) (c tok : Nat) (r : Res) :
    respondTo s c tok r = { s with clients := (respondTo s c tok r).clients, log := (respondTo s c tok r).log } := by
  unfold respondTo
  split
  · split <;> rfl
  · rfl

theorem cbPre_shape (s : State) (ev : CbEv) :
    cbPre s ev = { s with lastSerial := (cbPre s ev).lastSerial, lastVersion := (cbPre s ev).lastVersion, log := (cbPre s ev).log } := by
  cases ev with
  | newCfg old new supp => cases supp <;> rfl
  | _ => rfl

theorem offerCtl_shape (s : State) (c ctx ch : Nat) :
    offerCtl s c ctx ch = { s with mon := (offerCtl s c ctx ch).mon, monCtl := (offerCtl s c ctx ch).monCtl, clients := (offerCtl s c ctx ch).clients, log := (offerCtl s c ctx ch).log } := by
  unfold offerCtl
  dsimp only
  split
  · rw [waitOr_shape]; split <;> rfl
  · split <;> rfl

inductive MonStep (W : World) (ch : Nat) (s : State) : State → Prop
  | sleep (hm : s.mon = .top) (hin : readyIns s = []) : MonStep W ch s { s with mon := .sel }
  | take (i : MonIn) (hm : s.mon = .top) (hi : (readyIns s)[ch]? = some i) : MonStep W ch s (monTake s i)
  | gotValue (src v : Nat) (reply : Option Nat) (hm : s.mon = .gotValue src v reply) :
      MonStep W ch s { ({ s with slots := setSlot s.slots src v }.logAdd (.gotUpd src v reply)) with
        mon := if !W.stackOk (setSlot s.slots src v) then .submitErr .stack none reply
          else if Facts.verifyOnUpdate s.skipVerify then .verifyUpd (setSlot s.slots src v) reply
          else .store (setSlot s.slots src v) reply }
  | verifyUpd (sl : Slots) (reply : Option Nat) (hm : s.mon = .verifyUpd sl reply) :
      MonStep W ch s ({ s with mon := if W.valid sl then .store sl reply else .submitErr .verify (some sl) reply }.logAdd
        (.verify sl (W.valid sl) false))
  | submitErr (k : ErrK) (new : Option Slots) (reply : Option Nat) (hm : s.mon = .submitErr k new reply) :
      MonStep W ch s { ((trySubmit s (.watchErr k s.view.cfg new) ch).logAdd (.reject k reply)) with
        mon := reply.elim .top (.replyErr k) }
  | replyErr (k : ErrK) (c : Nat) (hm : s.mon = .replyErr k c) :
      MonStep W ch s { (replyTo s c (errRes k)) with mon := .top }
  | store (sl : Slots) (reply : Option Nat) (hm : s.mon = .store sl reply) :
      MonStep W ch s ({ s with view := ⟨Facts.nextSerial s.view.serial, sl⟩, mon := .events s.view.cfg reply }.logAdd
        (.install ⟨Facts.nextSerial s.view.serial, sl⟩ s.skipVerify))
  | events (old : Slots) (reply : Option Nat) (hm : s.mon = .events old reply) :
      MonStep W ch s { s with events := some (s.events.getD s.view),
                              mon := reply.elim (.submitNew old) (.replyOk old) }
  | replyOk (old : Slots) (c : Nat) (hm : s.mon = .replyOk old c) :
      MonStep W ch s { (replyTo s c .okNil) with mon := .submitNew old }
  | submitNew (old : Slots) (hm : s.mon = .submitNew old) :
      MonStep W ch s { (trySubmit s (.newCfg old s.view (suppressedNow s)) ch) with mon := .top }
  | gotSrcErr (e : Nat) (hm : s.mon = .gotSrcErr e) :
      MonStep W ch s (if Facts.deliverSrcErr s.skipVerify s.P.suppress then { s with mon := .submitSrcErr e }
        else { s with mon := .top }.logAdd (.srcErrIgnored e s.skipVerify))
  | submitSrcErr (e : Nat) (hm : s.mon = .submitSrcErr e) :
      MonStep W ch s { (trySubmit s (.watchErr (.source e) s.view.cfg none) ch) with mon := .top }
  | gotDone (src : Nat) (hm : s.mon = .gotDone src) :
      MonStep W ch s { s with watching := setFalse s.watching src,
                              mon := if (setFalse s.watching src).any id then .top else .exit }
  | gotEnable (c tok : Nat) (hm : s.mon = .gotEnable c tok) :
      MonStep W ch s { s with mon := if !s.skipVerify then .enableReply c tok true true else .verifyEnable c tok }
  | verifyEnable (c tok : Nat) (hm : s.mon = .verifyEnable c tok) :
      MonStep W ch s ({ s with mon := .enableReply c tok (W.valid s.view.cfg) false }.logAdd
        (.verify s.view.cfg (W.valid s.view.cfg) true))
  | enableReply (c tok : Nat) (ok noop : Bool) (hm : s.mon = .enableReply c tok ok noop) :
      MonStep W ch s { (respondTo (enableSwitch s ok noop) c tok (if ok then .enableOk s.view else .enableErr)) with
        mon := .top }
  | exit (hm : s.mon = .exit) :
      MonStep W ch s ({ s with mon := .finished, monDone := true, clients := s.clients.map release,
                               cb := match s.cb with | .sel => .exit | x => x }.logAdd .monExit)

theorem MonStep.run {W : World} {ch : Nat} {s s' : State} (h : MonStep W ch s s') : runMon W s ch = some s' := by
  cases h with
  | sleep hm hin => simp only [runMon, hm, hin]
  | take i hm hi =>
    cases hr : readyIns s with
    | nil => rw [hr] at hi; cases hi
    | cons j rest => simp only [runMon, hm, hr]; rw [← hr, hi]; rfl
  | gotValue src v reply hm =>
    simp only [runMon, hm, logAdd_skipVerify]
    split
    · rfl
    · split <;> rfl
  | verifyUpd sl reply hm => simp only [runMon, hm]; cases W.valid sl <;> rfl
  | submitErr k new reply hm => simp only [runMon, hm]; cases reply <;> rfl
  | replyErr k c hm => simp only [runMon, hm]; cases k <;> rfl
  | store sl reply hm | replyOk old c hm | submitNew old hm | submitSrcErr e hm | verifyEnable c tok hm =>
    simp only [runMon, hm]
  | events old reply hm => cases he : s.events <;> cases reply <;> simp only [runMon, hm, he] <;> rfl
  | gotSrcErr e hm | gotDone src hm | gotEnable c tok hm => simp only [runMon, hm]; split <;> rfl
  | enableReply c tok ok noop hm => simp only [runMon, hm, respondTo, enableSwitch]; cases noop <;> rfl
  | exit hm => simp only [runMon, hm]; rfl

theorem MonStep.eq {W : World} {ch : Nat} {s s' t : State} (ht : MonStep W ch s t) (h : runMon W s ch = some s') :
    s' = t :=
  Option.some.inj (h.symm.trans ht.run)

theorem runMon_top {W : World} {ch : Nat} {s s' : State} (hm : s.mon = .top) (h : runMon W s ch = some s') :
    (readyIns s = [] ∧ s' = { s with mon := .sel }) ∨ ∃ i, (readyIns s)[ch]? = some i ∧ s' = monTake s i := by
  cases hr : readyIns s with
  | nil => exact .inl ⟨rfl, (MonStep.sleep hm hr).eq h⟩
  | cons j rest =>
    simp only [runMon, hm, hr, Option.map_eq_some_iff] at h
    obtain ⟨i, hi, rfl⟩ := h
    exact .inr ⟨i, hi, rfl⟩

theorem MonStep.of_run {W : World} {ch : Nat} {s s' : State} (h : runMon W s ch = some s') : MonStep W ch s s' := by
  have key : ∀ {t}, MonStep W ch s t → MonStep W ch s s' := fun ht => Option.some.inj (ht.run.symm.trans h) ▸ ht
  cases hm : s.mon with
  | top =>
    rcases runMon_top hm h with ⟨hin, rfl⟩ | ⟨i, hi, rfl⟩
    · exact .sleep hm hin
    · exact .take i hm hi
  | sel => simp only [runMon, hm] at h; cases h
  | finished => simp only [runMon, hm] at h; cases h
  | gotValue src v reply => exact key (.gotValue src v reply hm)
  | verifyUpd sl reply => exact key (.verifyUpd sl reply hm)
  | submitErr k new reply => exact key (.submitErr k new reply hm)
  | replyErr k c => exact key (.replyErr k c hm)
  | store sl reply => exact key (.store sl reply hm)
  | events old reply => exact key (.events old reply hm)
  | replyOk old c => exact key (.replyOk old c hm)
  | submitNew old => exact key (.submitNew old hm)
  | gotSrcErr e => exact key (.gotSrcErr e hm)
  | submitSrcErr e => exact key (.submitSrcErr e hm)
  | gotDone src => exact key (.gotDone src hm)
  | gotEnable c tok => exact key (.gotEnable c tok hm)
  | verifyEnable c tok => exact key (.verifyEnable c tok hm)
  | enableReply c tok ok noop => exact key (.enableReply c tok ok noop hm)
  | exit => exact key (.exit hm)

inductive CbStep (s : State) : State → Prop
  | deq (ev : CbEv) (rest : List CbEv) (hc : s.cb = .top) (hq : s.cbch = ev :: rest) :
      CbStep s (admitCbSender (cbTake { s with cbch := rest } ev))
  | idle (hc : s.cb = .top) (hq : s.cbch = []) : CbStep s { s with cb := if s.monDone then .exit else .sel }
  | skip (ev : CbEv) (hc : s.cb = .got ev) (hcs : cbCalls s ev = []) :
      CbStep s { (finishEv (cbPre s ev) ev) with cb := .top }
  | call (ev : CbEv) (c : Call) (cs : List Call) (hc : s.cb = .got ev) (hcs : cbCalls s ev = c :: cs) :
      CbStep s ({ (cbPre s ev) with cb := .calls (c :: cs) ev }.logAdd (.enter c))
  | next (c0 c : Call) (cs : List Call) (ev : CbEv) (hc : s.cb = .calls (c0 :: c :: cs) ev) :
      CbStep s ({ s with cb := .calls (c :: cs) ev }.logAdd (.enter c))
  | last (c : Call) (ev : CbEv) (hc : s.cb = .calls [c] ev) : CbStep s { (finishEv s ev) with cb := .top }
  | exit (hc : s.cb = .exit) : CbStep s { s with cb := .finished }

theorem runCb_got_eq {s : State} {ev : CbEv} (hc : s.cb = .got ev) :
    runCb s = match cbCalls s ev with
      | [] => some { (finishEv (cbPre s ev) ev) with cb := .top }
      | c :: cs => some ({ (cbPre s ev) with cb := .calls (c :: cs) ev }.logAdd (.enter c)) := by
  cases s
  simp only at hc
  subst hc
  rfl

theorem CbStep.run {s s' : State} (h : CbStep s s') : runCb s = some s' := by
  cases h with
  | deq ev rest hc hq => simp only [runCb, hc, hq]
  | idle hc hq => simp only [runCb, hc, hq]; split <;> rfl
  | skip ev hc hcs | call ev c cs hc hcs => rw [runCb_got_eq hc, hcs]
  | next c0 c cs ev hc | last c ev hc | exit hc => simp only [runCb, hc]

theorem CbStep.of_run {s s' : State} (h : runCb s = some s') : CbStep s s' := by
  have key : ∀ {t}, CbStep s t → CbStep s s' := fun ht => Option.some.inj (ht.run.symm.trans h) ▸ ht
  cases hc : s.cb with
  | top =>
    cases hq : s.cbch with
    | nil => exact key (.idle hc hq)
    | cons ev rest => exact key (.deq ev rest hc hq)
  | sel => simp only [runCb, hc] at h; cases h
  | got ev =>
    cases hcs : cbCalls s ev with
    | nil => exact key (.skip ev hc hcs)
    | cons c cs => exact key (.call ev c cs hc hcs)
  | calls cs ev =>
    match cs, hc with
    | [], hc => simp only [runCb, hc] at h; cases h
    | [c], hc => exact key (.last c ev hc)
    | c0 :: c :: cs, hc => exact key (.next c0 c cs ev hc)
  | exit => exact key (.exit hc)
  | finished => simp only [runCb, hc] at h; cases h

inductive ClStep (s : State) (c ch : Nat) : State → Prop
  | view (ctx : Nat) (hc : getC s.clients c = .ready .view ctx) :
      ClStep s c ch ((s.ret c (.version s.view)).logAdd (.seen c s.view))
  | recv (ctx : Nat) (v : Version) (hc : getC s.clients c = .ready .events ctx) (he : s.events = some v) :
      ClStep s c ch (({ s with events := none }.ret c (.event v.cfg)).logAdd (.evRecv c v))
  | noEvent (ctx : Nat) (hc : getC s.clients c = .ready .events ctx) (he : s.events = none) :
      ClStep s c ch (s.ret c .noEvent)
  | report (src v : Nat) (blocking : Bool) (ctx : Nat) (hc : getC s.clients c = .ready (.report src v blocking) ctx) :
      ClStep s c ch (offerW s c (.value src v (if blocking then some c else none)) ctx ch)
  | reportErr (src e ctx : Nat) (hc : getC s.clients c = .ready (.reportErr src e) ctx) :
      ClStep s c ch (offerW s c (.srcErr src e) ctx ch)
  | done (src ctx : Nat) (hc : getC s.clients c = .ready (.done src) ctx) : ClStep s c ch (offerW s c (.done src) ctx ch)
  | register (h ser : Nat) (cfg : Option Slots) (ctx : Nat) (hc : getC s.clients c = .ready (.register h ser cfg) ctx) :
      ClStep s c ch (offerCb s c (.reg h ser cfg) ctx ch)
  | unregister (h ctx : Nat) (hc : getC s.clients c = .ready (.unregister h) ctx) :
      ClStep s c ch (offerCb s c (.unreg h c ctx) ctx ch)
  | enableNow (ctx : Nat) (hc : getC s.clients c = .ready .enable ctx) (hd : s.P.delay = false) :
      ClStep s c ch (s.ret c (.enableOk s.view))
  | enable (ctx : Nat) (hc : getC s.clients c = .ready .enable ctx) (hd : s.P.delay = true) :
      ClStep s c ch (offerCtl s c ctx ch)

theorem ClStep.run {s s' : State} {c ch : Nat} (h : ClStep s c ch s') : runClient s c ch = some s' := by
  cases h with
  | view ctx hc | report src v blocking ctx hc | reportErr src e ctx hc | done src ctx hc
  | register h ser cfg ctx hc | unregister h ctx hc => simp only [runClient, hc]
  | recv ctx v hc he | noEvent ctx hc he => simp only [runClient, hc, he]
  | enableNow ctx hc hd => simp only [runClient, hc, hd]; rfl
  | enable ctx hc hd =>
    simp only [runClient, hc, hd, offerCtl, Bool.not_true, Bool.false_eq_true, if_false]
    split
    · split <;> rfl
    · split <;> rfl

theorem ClStep.of_run {s s' : State} {c ch : Nat} (h : runClient s c ch = some s') : ClStep s c ch s' := by
  have key : ∀ {t}, ClStep s c ch t → ClStep s c ch s' := fun ht => Option.some.inj (ht.run.symm.trans h) ▸ ht
  cases hc : getC s.clients c with
  | ready op ctx =>
    cases op with
    | view => exact key (.view ctx hc)
    | events =>
      cases he : s.events with
      | none => exact key (.noEvent ctx hc he)
      | some v => exact key (.recv ctx v hc he)
    | report src v blocking => exact key (.report src v blocking ctx hc)
    | reportErr src e => exact key (.reportErr src e ctx hc)
    | done src => exact key (.done src ctx hc)
    | register hd ser cfg => exact key (.register hd ser cfg ctx hc)
    | unregister hd => exact key (.unregister hd ctx hc)
    | enable =>
      cases hd : s.P.delay with
      | false => exact key (.enableNow ctx hc hd)
      | true => exact key (.enable ctx hc hd)
  | _ => simp only [runClient, hc] at h; cases h

/-- `quietObs` ⊆ `cbObs` ⊆ `clientObs`: what clients and the callback goroutine log that no program observes
(`observed_of_quiet`); that and the callback entries; what anyone logs outside the body of the monitor's loop. -/
def quietObs : Obs → Bool
  | .ret _ (.enableOk _) => false
  | .ret _ _ | .enableCalled _ | .regProcessed _ _ _ | .unregProcessed _ => true
  | .withheld (.newCfg _ _ true) _ => true
  | _ => false

def cbObs : Obs → Bool
  | .enter _ => true
  | o => quietObs o

def clientObs : Obs → Bool
  | .ret _ _ | .seen _ _ | .evRecv _ _ | .enableCalled _ | .regProcessed _ _ _ | .enter _ | .unregProcessed _ => true
  | .withheld (.newCfg _ _ true) _ => true
  | _ => false

theorem clientObs_of_quiet (o : Obs) (h : quietObs o = true) : clientObs o = true := by
  cases o with
  | withheld ev skip =>
    cases ev with
    | newCfg old new supp => cases supp <;> first | rfl | exact h
    | _ => exact h
  | _ => first | rfl | exact h

theorem cbObs_of_quiet (o : Obs) (h : quietObs o = true) : cbObs o = true := by
  cases o <;> first | rfl | exact h

theorem clientObs_of_cb (o : Obs) (h : cbObs o = true) : clientObs o = true := by
  cases o with
  | enter c => rfl
  | _ => exact clientObs_of_quiet _ h

def plain (o : Obs) : Bool := !isGotUpd o && !isInstall o

theorem plain_of_clientObs {o : Obs} (h : clientObs o = true) : plain o = true := by
  cases o <;> first | rfl | cases h

theorem all_plain_of_clientObs {new : List Obs} (h : new.all clientObs = true) : new.all plain = true := by
  rw [List.all_eq_true] at h ⊢
  exact fun o ho => plain_of_clientObs (h o ho)

/-- the pcs of the monitor just after `monTake`: it has taken a message itself at the top of its loop, or the sender
has handed one over while it waited in its select -/
def monWake : MonPc → Bool
  | .gotValue _ _ _ | .gotSrcErr _ | .gotDone _ | .gotEnable _ _ | .exit => true
  | _ => false

structure Frame (p : Obs → Bool) (s s' : State) : Prop where
  P : s'.P = s.P
  view : s'.view = s.view
  slots : s'.slots = s.slots
  skip : s'.skipVerify = s.skipVerify
  mon : s'.mon = s.mon ∨ (s.mon.idle = true ∧ (s'.mon.idle = true ∨ monWake s'.mon = true))
  log : ∃ new, s'.log = new ++ s.log ∧ new.all p = true

section
variable {p : Obs → Bool}

theorem Frame.refl (s : State) : Frame p s s := ⟨rfl, rfl, rfl, rfl, .inl rfl, [], rfl, rfl⟩

theorem Frame.trans {s s' s'' : State} (h1 : Frame p s s') (h2 : Frame p s' s'') : Frame p s s'' := by
  refine ⟨h2.P.trans h1.P, h2.view.trans h1.view, h2.slots.trans h1.slots, h2.skip.trans h1.skip, ?_, ?_⟩
  · rcases h1.mon with e1 | ⟨e1, w1⟩
    · rcases h2.mon with e2 | ⟨e2, w2⟩
      · exact .inl (e2.trans e1)
      · exact .inr ⟨e1 ▸ e2, w2⟩
    · rcases h2.mon with e2 | ⟨_, w2⟩
      · exact .inr ⟨e1, e2 ▸ w1⟩
      · exact .inr ⟨e1, w2⟩
  · obtain ⟨n1, e1, a1⟩ := h1.log
    obtain ⟨n2, e2, a2⟩ := h2.log
    exact ⟨n2 ++ n1, by rw [e2, e1, List.append_assoc], by rw [List.all_append, a1, a2]; rfl⟩

theorem Frame.mono {q : Obs → Bool} (hpq : ∀ o, p o = true → q o = true) {s s' : State} (h : Frame p s s') :
    Frame q s s' := by
  obtain ⟨new, e, a⟩ := h.log
  exact ⟨h.P, h.view, h.slots, h.skip, h.mon, new, e, List.all_eq_true.mpr fun o ho => hpq o (List.all_eq_true.mp a o ho)⟩

theorem Frame.of_eq {s s' : State} (hP : s'.P = s.P) (hv : s'.view = s.view) (hs : s'.slots = s.slots)
    (hk : s'.skipVerify = s.skipVerify) (hm : s'.mon = s.mon) (hl : s'.log = s.log) : Frame p s s' :=
  ⟨hP, hv, hs, hk, .inl hm, [], hl, rfl⟩

theorem Frame.wake {s s' : State} (hP : s'.P = s.P) (hv : s'.view = s.view) (hs : s'.slots = s.slots)
    (hk : s'.skipVerify = s.skipVerify) (hi : s.mon.idle = true) (hw : s'.mon.idle = true ∨ monWake s'.mon = true)
    (hl : s'.log = s.log) : Frame p s s' :=
  ⟨hP, hv, hs, hk, .inr ⟨hi, hw⟩, [], hl, rfl⟩

theorem frame_logAdd (s : State) {o : Obs} (h : p o = true) : Frame p s (s.logAdd o) :=
  ⟨rfl, rfl, rfl, rfl, .inl rfl, [o], rfl, by rw [List.all_cons, h]; rfl⟩

theorem frame_setClient (s : State) (c : Nat) (st : CSt) : Frame p s (s.setClient c st) :=
  .of_eq rfl rfl rfl rfl rfl rfl

theorem frame_blockClient (s : State) (c : Nat) (st : CSt) : Frame p s (s.blockClient c st) :=
  .of_eq rfl rfl rfl rfl rfl rfl

theorem frame_ret (s : State) (c : Nat) {r : Res} (h : p (.ret c r) = true) : Frame p s (s.ret c r) :=
  ⟨rfl, rfl, rfl, rfl, .inl rfl, [.ret c r], rfl, by rw [List.all_cons, h]; rfl⟩

theorem frame_waitOr (s : State) (c ctx : Nat) (st : CSt) {r : Res} (h : p (.ret c r) = true) :
    Frame p s (s.waitOr c ctx st r) := by
  unfold State.waitOr
  split
  · exact frame_ret s c h
  · exact frame_setClient ..

theorem frame_enqueueCb (s : State) (ev : CbEv) : Frame p s (enqueueCb s ev) := by
  rw [enqueueCb_shape]
  exact .of_eq rfl rfl rfl rfl rfl rfl

theorem frame_cancelCtx (s : State) (ctx : Nat) : Frame p s (cancelCtx s ctx) := by
  unfold cancelCtx
  dsimp only
  split
  · next hc =>
    simp only [Bool.and_eq_true, beq_iff_eq] at hc
    exact .wake rfl rfl rfl rfl (by rw [hc.2]; rfl) (.inr rfl) rfl
  · exact .of_eq rfl rfl rfl rfl rfl rfl

end

theorem frame_finishEv (s : State) (ev : CbEv) : Frame quietObs s (finishEv s ev) := by
  unfold finishEv
  split
  · exact .refl s
  · exact .refl s
  · exact .of_eq rfl rfl rfl rfl rfl rfl
  · next h c tok =>
    dsimp only
    have h1 : Frame quietObs s { s with handles := s.handles.filter (fun x => x.1 != h), log := .unregProcessed h :: s.log } :=
      ⟨rfl, rfl, rfl, rfl, .inl rfl, [.unregProcessed h], rfl, rfl⟩
    split
    · split
      · exact h1.trans (frame_ret _ c rfl)
      · exact h1
    · exact h1

theorem frame_admitCbSender (s : State) : Frame quietObs s (admitCbSender s) := by
  unfold admitCbSender
  split
  · next c ev ctx _ =>
    dsimp only
    have h1 : Frame quietObs s { s with cbch := s.cbch ++ [ev] } := .of_eq rfl rfl rfl rfl rfl rfl
    split
    · exact h1.trans (frame_waitOr _ c ctx _ rfl)
    · exact h1.trans (frame_ret _ c rfl)
    · exact h1.trans (frame_ret _ c rfl)
  · exact .refl s

theorem frame_admitCtlSender (s : State) : Frame quietObs s (admitCtlSender s) := by
  unfold admitCtlSender
  split
  · next c ctx _ =>
    have h1 : Frame quietObs s { s with monCtl := s.monCtl ++ [(c, ctx)] } := .of_eq rfl rfl rfl rfl rfl rfl
    exact h1.trans (frame_waitOr _ c ctx _ rfl)
  · exact .refl s

theorem frame_monTake (s : State) (i : MonIn) (hm : s.mon.idle = true) : Frame quietObs s (monTake s i) := by
  unfold monTake
  split
  · exact .wake rfl rfl rfl rfl hm (.inr rfl) rfl
  · next c tok =>
    have h1 : Frame quietObs s { s with mon := .gotEnable c tok, monCtl := s.monCtl.drop 1 } :=
      .wake rfl rfl rfl rfl hm (.inr rfl) rfl
    exact h1.trans (frame_admitCtlSender _)
  · next c m =>
    dsimp only
    have h1 : Frame quietObs s (match m with
      | .value src v reply => { s with mon := .gotValue src v reply }
      | .srcErr _ e => { s with mon := .gotSrcErr e }
      | .done src => { s with mon := .gotDone src }) := by
      split <;> exact .wake rfl rfl rfl rfl hm (.inr rfl) rfl
    split
    · exact h1.trans (frame_waitOr _ c _ _ rfl)
    · exact h1.trans (frame_ret _ c rfl)

theorem frame_offerW (s : State) (c : Nat) (m : Msg) (ctx ch : Nat) : Frame quietObs s (offerW s c m ctx ch) := by
  unfold offerW
  dsimp only
  split
  · next hc =>
    have hm : s.mon = .sel := by
      simp only [Bool.and_eq_true, beq_iff_eq] at hc
      exact hc.1
    exact (frame_setClient s c _).trans (frame_monTake _ _ (by rw [setClient_mon, hm]; rfl))
  · split
    · exact frame_ret s c rfl
    · exact frame_blockClient ..

theorem frame_offerCb (s : State) (c : Nat) (ev : CbEv) (ctx ch : Nat) : Frame quietObs s (offerCb s c ev ctx ch) := by
  unfold offerCb
  dsimp only
  split
  · split <;> exact frame_ret s c rfl
  · split
    · split
      · exact (frame_enqueueCb s _).trans (frame_waitOr _ c ctx _ rfl)
      · exact (frame_enqueueCb s _).trans (frame_ret _ c rfl)
      · exact (frame_enqueueCb s _).trans (frame_ret _ c rfl)
    · split
      · split <;> exact frame_ret s c rfl
      · exact frame_blockClient ..

/-- the call is logged first -/
theorem frame_offerCtl (s : State) (c ctx ch : Nat) :
    Frame quietObs (s.logAdd (.enableCalled c)) (offerCtl s c ctx ch) := by
  unfold offerCtl
  dsimp only
  split
  · have h2 : Frame quietObs (s.logAdd (.enableCalled c)) _ := frame_waitOr _ c ctx (.waitResp ctx) (r := .ctxErr) rfl
    split
    · next hm => exact h2.trans (.wake rfl rfl rfl rfl (congrArg MonPc.idle (eq_of_beq hm)) (.inr rfl) rfl)
    · exact h2.trans (.of_eq rfl rfl rfl rfl rfl rfl)
  · split
    · exact frame_ret _ c rfl
    · exact frame_blockClient ..

theorem Frame.loud {s s' : State} (h : Frame quietObs s s') : Frame clientObs s s' := h.mono clientObs_of_quiet

theorem frame_cbPre (s : State) (ev : CbEv) : Frame quietObs s (cbPre s ev) := by
  cases ev with
  | newCfg old new supp =>
    have h1 : Frame quietObs s { s with lastSerial := new.serial, lastVersion := some new.cfg } :=
      .of_eq rfl rfl rfl rfl rfl rfl
    cases supp
    · exact h1
    · exact h1.trans (frame_logAdd _ rfl)
  | watchErr k old new => exact .refl s
  | reg h ser cfg => exact frame_logAdd s rfl
  | unreg h c tok => exact .refl s

theorem CbStep.frame {s s' : State} (h : CbStep s s') : Frame cbObs s s' := by
  have q : ∀ {t t' : State}, Frame quietObs t t' → Frame cbObs t t' := fun h => h.mono cbObs_of_quiet
  cases h with
  | deq ev rest hc hq =>
    exact Frame.trans (s' := cbTake { s with cbch := rest } ev) (.of_eq rfl rfl rfl rfl rfl rfl)
      (q (frame_admitCbSender _))
  | idle hc hq => exact .of_eq rfl rfl rfl rfl rfl rfl
  | skip ev hc hcs =>
    exact (q ((frame_cbPre s ev).trans (frame_finishEv _ ev))).trans (.of_eq rfl rfl rfl rfl rfl rfl)
  | call ev c cs hc hcs =>
    exact (q (frame_cbPre s ev)).trans ⟨rfl, rfl, rfl, rfl, .inl rfl, [.enter c], rfl, rfl⟩
  | next c0 c cs ev hc => exact ⟨rfl, rfl, rfl, rfl, .inl rfl, [.enter c], rfl, rfl⟩
  | last c ev hc => exact (q (frame_finishEv s ev)).trans (.of_eq rfl rfl rfl rfl rfl rfl)
  | exit hc => exact .of_eq rfl rfl rfl rfl rfl rfl

theorem ClStep.frame {s s' : State} {c ch : Nat} (h : ClStep s c ch s') : Frame clientObs s s' := by
  cases h with
  | view ctx hc => exact (frame_ret s c rfl).trans (frame_logAdd _ rfl)
  | recv ctx v hc he =>
    exact Frame.trans (s' := { s with events := none }) (.of_eq rfl rfl rfl rfl rfl rfl)
      ((frame_ret _ c rfl).trans (frame_logAdd _ rfl))
  | noEvent ctx hc he => exact frame_ret s c rfl
  | report | reportErr | done => exact (frame_offerW ..).loud
  | register | unregister => exact (frame_offerCb ..).loud
  | enableNow ctx hc hd => exact frame_ret s c rfl
  | enable ctx hc hd => exact ((frame_logAdd s rfl).trans (frame_offerCtl ..)).loud

inductive Step (W : World) (s : State) : Label → State → Prop
  | begin (c : Nat) (op : Op) (ctx : Nat) (hc : getC s.clients c = .idle) :
      Step W s (.begin c op ctx) (s.setClient c (.ready op ctx))
  | ack (c : Nat) (r : Res) (hc : getC s.clients c = .returned r) : Step W s (.ack c) (s.setClient c .idle)
  | mon (ch : Nat) {s' : State} (h : MonStep W ch s s') : Step W s (.runMon ch) s'
  | cb {s' : State} (h : CbStep s s') : Step W s .runCb s'
  | client (c ch : Nat) {s' : State} (h : ClStep s c ch s') : Step W s (.runClient c ch) s'
  | cancel (ctx : Nat) : Step W s (.cancel ctx) (cancelCtx s ctx)

theorem Step.of_step {W : World} {s s' : State} {l : Label} (h : step W s l = some s') : Step W s l s' := by
  cases l with
  | «begin» c op ctx =>
    simp only [step] at h
    split at h
    · next hc => cases h; exact .begin c op ctx hc
    · cases h
  | ack c =>
    simp only [step] at h
    split at h
    · next r hc => cases h; exact .ack c r hc
    · cases h
  | runMon ch => exact .mon ch (.of_run h)
  | runCb => exact .cb (.of_run h)
  | runClient c ch => exact .client c ch (.of_run h)
  | cancel ctx => cases h; exact .cancel ctx

theorem reachable_induction {W : World} {P : Params} {sl : Slots} {w : List Bool} {I : State → Prop}
    (h0 : I (initState P sl w)) (hstep : ∀ s s' l, I s → step W s l = some s' → I s')
    {s : State} (hr : Reachable W P sl w s) : I s := by
  obtain ⟨ls, hls⟩ := hr
  generalize initState P sl w = s0 at h0 hls
  induction ls generalizing s0 with
  | nil => cases hls; exact h0
  | cons l ls ih =>
    cases hs : step W s0 l with
    | none => rw [run, hs] at hls; cases hls
    | some s1 =>
      rw [run, hs] at hls
      exact ih s1 (hstep s0 s1 l h0 hs) hls

theorem label_cases (l : Label) : (∀ ch, l ≠ .runMon ch) ∨ ∃ ch, l = .runMon ch := by
  cases l <;> simp

theorem Step.frame {W : World} {s s' : State} {l : Label} (h : Step W s l s') (hl : ∀ ch, l ≠ .runMon ch) :
    Frame clientObs s s' := by
  cases h with
  | «begin» c op ctx hc => exact frame_setClient ..
  | ack c r hc => exact frame_setClient ..
  | mon ch h => exact absurd rfl (hl ch)
  | cb h => exact h.frame.mono clientObs_of_cb
  | client c ch h => exact h.frame
  | cancel ctx => exact frame_cancelCtx ..

theorem frame_runMon_top {W : World} {s s' : State} {ch : Nat} (hm : s.mon = .top) (h : runMon W s ch = some s') :
    Frame clientObs s s' := by
  have hi : s.mon.idle = true := by rw [hm]; rfl
  rcases runMon_top hm h with ⟨_, rfl⟩ | ⟨i, _, rfl⟩
  · exact .wake rfl rfl rfl rfl hi (.inl rfl) rfl
  · exact (frame_monTake s i hi).loud

section
variable {Q : CSt → Prop} {s s' : State}

theorem blockClient_all {st : CSt} (hst : Q st) (c : Nat) (h : AllC Q s.clients) :
    AllC Q (s.blockClient c st).clients := by
  intro p hp
  rcases List.mem_append.mp hp with hp | hp
  · exact h p (List.mem_filter.mp hp).1
  · rw [List.mem_singleton.mp hp]; exact hst

theorem waitOr_all {st : CSt} {r : Res} (hr : Q (.returned r)) (hst : Q st) (c ctx : Nat)
    (h : AllC Q s.clients) : AllC Q (s.waitOr c ctx st r).clients := by
  unfold State.waitOr
  split
  · exact setC_all h hr
  · exact setC_all h hst

theorem map_all {f : Nat × CSt → Nat × CSt} (hr : ∀ r, Q (.returned r))
    (hf : ∀ p, (f p).2 = p.2 ∨ ∃ r, (f p).2 = .returned r) (h : AllC Q s.clients) :
    AllC Q (s.clients.map f) := by
  intro p hp
  obtain ⟨q, hq, rfl⟩ := List.mem_map.mp hp
  rcases hf q with e | ⟨r, e⟩ <;> rw [e]
  · exact h q hq
  · exact hr r

theorem cancelCtx_all (hr : ∀ r, Q (.returned r)) (ctx : Nat) (h : AllC Q s.clients) :
    AllC Q (cancelCtx s ctx).clients :=
  cancelCtx_clients s ctx ▸ map_all hr (wake_snd ctx) h

theorem release_all (hr : ∀ r, Q (.returned r)) (h : AllC Q s.clients) :
    AllC Q (s.clients.map release) :=
  map_all hr release_snd h

theorem respondTo_all {r : Res} (hr : Q (.returned r)) (c tok : Nat) (h : AllC Q s.clients) :
    AllC Q (respondTo s c tok r).clients := by
  unfold respondTo
  split
  · split
    · exact setC_all h hr
    · exact h
  · exact h

theorem replyTo_all {r : Res} (hr : Q (.returned r)) (c : Nat) (h : AllC Q s.clients) :
    AllC Q (replyTo s c r).clients := by
  unfold replyTo
  dsimp only
  split
  · exact setC_all h hr
  · exact h

theorem finishEv_all (hr : Q (.returned .unregTrue)) (ev : CbEv) (h : AllC Q s.clients) :
    AllC Q (finishEv s ev).clients := by
  unfold finishEv
  split
  · exact h
  · exact h
  · exact h
  · dsimp only
    split
    · split
      · exact setC_all h hr
      · exact h
    · exact h

theorem admitCbSender_all (hr : ∀ r, Q (.returned r)) (hw : ∀ k, Q (.waitDone k)) (h : AllC Q s.clients) :
    AllC Q (admitCbSender s).clients := by
  unfold admitCbSender
  split
  · dsimp only
    split
    · exact waitOr_all (hr _) (hw _) _ _ h
    · exact setC_all h (hr _)
    · exact setC_all h (hr _)
  · exact h

theorem admitCtlSender_all (hr : Q (.returned .ctxErr)) (hw : ∀ k, Q (.waitResp k)) (h : AllC Q s.clients) :
    AllC Q (admitCtlSender s).clients := by
  unfold admitCtlSender
  split
  · exact waitOr_all hr (hw _) _ _ h
  · exact h

theorem monTake_msg_all (hr : ∀ r, Q (.returned r)) (hw : ∀ k, Q (.waitReply k)) (c : Nat) (m : Msg)
    (h : AllC Q s.clients) : AllC Q (monTake s (.msg c m)).clients := by
  have key : ∀ s1 : State, s1.clients = s.clients → AllC Q (match m, getC s1.clients c with
      | .value _ _ (some _), .sendW _ ctx => s1.waitOr c ctx (.waitReply ctx) .ctxErr
      | _, _ => s1.ret c .okNil).clients := by
    intro s1 e
    split
    · exact waitOr_all (hr _) (hw _) _ _ (e ▸ h)
    · exact setC_all (e ▸ h) (hr _)
  cases m <;> exact key _ rfl

theorem monTake_all (hr : ∀ r, Q (.returned r)) (hw : ∀ k, Q (.waitReply k)) (hw' : ∀ k, Q (.waitResp k)) (i : MonIn)
    (h : AllC Q s.clients) : AllC Q (monTake s i).clients := by
  cases i with
  | ctx => exact h
  | ctl c tok => exact admitCtlSender_all (hr _) hw' h
  | msg c m => exact monTake_msg_all hr hw c m h

theorem offerW_all (hr : ∀ r, Q (.returned r)) (hw : ∀ k, Q (.waitReply k)) {m : Msg} {ctx : Nat}
    (hs : Q (.sendW m ctx)) (c ch : Nat) (h : AllC Q s.clients) :
    AllC Q (offerW s c m ctx ch).clients := by
  unfold offerW
  dsimp only
  split
  · exact monTake_msg_all hr hw c m (setC_all h hs)
  · split
    · exact setC_all h (hr _)
    · exact blockClient_all hs c h

theorem offerCb_all (hr : ∀ r, Q (.returned r)) {ev : CbEv} {ctx : Nat} (hw : Q (.waitDone ctx))
    (hs : Q (.sendCb ev ctx)) (c ch : Nat) (h : AllC Q s.clients) :
    AllC Q (offerCb s c ev ctx ch).clients := by
  have h' : AllC Q (enqueueCb s ev).clients := by rw [enqueueCb_shape]; exact h
  unfold offerCb
  dsimp only
  split
  · exact setC_all h (hr _)
  · split
    · split
      · exact waitOr_all (hr _) hw _ _ h'
      · exact setC_all h' (hr _)
      · exact setC_all h' (hr _)
    · split
      · exact setC_all h (hr _)
      · exact blockClient_all hs c h

theorem offerCtl_all (hr : Q (.returned .ctxErr)) {ctx : Nat} (hw : Q (.waitResp ctx)) (hs : Q (.sendCtl ctx))
    (c ch : Nat) (h : AllC Q s.clients) : AllC Q (offerCtl s c ctx ch).clients := by
  have h' : AllC Q ((s.logAdd (.enableCalled c)).waitOr c ctx (.waitResp ctx) .ctxErr).clients :=
    waitOr_all hr hw _ _ h
  unfold offerCtl
  dsimp only
  split
  · split <;> exact h'
  · split
    · exact setC_all h hr
    · exact blockClient_all hs c h

theorem MonStep.clients_all {W : World} {ch : Nat} (h : MonStep W ch s s') (hr : ∀ r, Q (.returned r))
    (hw : ∀ k, Q (.waitReply k)) (hw' : ∀ k, Q (.waitResp k)) (hc : AllC Q s.clients) :
    AllC Q s'.clients := by
  cases h with
  | take i hm hi => exact monTake_all hr hw hw' i hc
  | submitErr | submitNew | submitSrcErr => rw [trySubmit_shape]; exact hc
  | replyErr k c | replyOk old c => exact replyTo_all (hr _) c hc
  | gotSrcErr e hm => split <;> exact hc
  | enableReply c tok ok noop hm => exact respondTo_all (hr _) c tok (by rw [enableSwitch_shape]; exact hc)
  | exit hm => exact release_all hr hc
  | _ => exact hc

theorem CbStep.clients_all (h : CbStep s s') (hr : ∀ r, Q (.returned r)) (hw : ∀ k, Q (.waitDone k))
    (hc : AllC Q s.clients) : AllC Q s'.clients := by
  cases h with
  | deq ev rest _ _ => exact admitCbSender_all hr hw hc
  | skip ev _ _ => exact finishEv_all (hr _) ev (by rw [cbPre_shape]; exact hc)
  | call ev c cs _ _ => rw [cbPre_shape]; exact hc
  | last c ev _ => exact finishEv_all (hr _) ev hc
  | _ => exact hc

end

/-- all the step does to the client table is to make calls return: whatever holds of every client's state before, and
of every `.returned r`, holds of every client's state after -/
def OnlyReturns (s s' : State) : Prop :=
  ∀ Q : CSt → Prop, (∀ r, Q (.returned r)) → (∀ p ∈ s.clients, Q p.2) → ∀ p ∈ s'.clients, Q p.2

theorem OnlyReturns.of_eq {s s' : State} (h : s'.clients = s.clients) : OnlyReturns s s' := by
  intro Q _ hs; rw [h]; exact hs

structure MonEff (s s' : State) (view : Version) (slots : Slots) (skip : Bool) (mon : MonPc) (log : List Obs) : Prop where
  P : s'.P = s.P
  view : s'.view = view
  slots : s'.slots = slots
  skip : s'.skipVerify = skip
  mon : s'.mon = mon
  monCtl : s'.monCtl = s.monCtl
  log : s'.log = log
  cl : OnlyReturns s s'

theorem trySubmit_eff (s : State) (ev : CbEv) (ch : Nat) :
    ∃ o, (o = .queued ev s.skipVerify ∨ o = .dropped ev) ∧ (trySubmit s ev ch).log = o :: s.log := by
  unfold trySubmit
  split
  · exact ⟨_, .inl rfl, by rw [enqueueCb_shape]; rfl⟩
  · exact ⟨_, .inr rfl, rfl⟩

theorem replyTo_eff (s : State) (c : Nat) (r : Res) :
    ∃ new, (replyTo s c r).log = new ++ .replied c r :: s.log ∧ new.all clientObs = true ∧
      OnlyReturns s (replyTo s c r) := by
  unfold replyTo
  dsimp only
  split
  · exact ⟨[.ret c r], rfl, rfl, fun Q hq hs => setC_all hs (hq r)⟩
  · exact ⟨[], rfl, rfl, .of_eq rfl⟩

theorem respondTo_eff (s : State) (c tok : Nat) (r : Res) :
    ∃ new, (respondTo s c tok r).log = new ++ s.log ∧ new.all clientObs = true := by
  unfold respondTo
  split
  · split
    · exact ⟨[.ret c r], rfl, rfl⟩
    · exact ⟨[], rfl, rfl⟩
  · exact ⟨[], rfl, rfl⟩

/-- The generated facts `Facts.verifyOnUpdate`, `suppressNew` and `deliverSrcErr` appear unfolded here:
`MonStep.body` stops checking if one of them is regenerated differently. -/
inductive MonBody (W : World) (s s' : State) : Prop
  | gotValue (src v : Nat) (reply : Option Nat) (hm : s.mon = .gotValue src v reply)
      (eff : MonEff s s' s.view (setSlot s.slots src v) s.skipVerify
        (if !W.stackOk (setSlot s.slots src v) then .submitErr .stack none reply
          else if !s.skipVerify then .verifyUpd (setSlot s.slots src v) reply
          else .store (setSlot s.slots src v) reply)
        (.gotUpd src v reply :: s.log))
  | verifyUpd (sl : Slots) (reply : Option Nat) (hm : s.mon = .verifyUpd sl reply)
      (eff : MonEff s s' s.view s.slots s.skipVerify
        (if W.valid sl then .store sl reply else .submitErr .verify (some sl) reply)
        (.verify sl (W.valid sl) false :: s.log))
  | submitErr (k : ErrK) (new : Option Slots) (reply : Option Nat) (hm : s.mon = .submitErr k new reply) (o : Obs)
      (ho : o = .queued (.watchErr k s.view.cfg new) s.skipVerify ∨ o = .dropped (.watchErr k s.view.cfg new))
      (eff : MonEff s s' s.view s.slots s.skipVerify (reply.elim .top (.replyErr k)) (.reject k reply :: o :: s.log))
  | replyErr (k : ErrK) (c : Nat) (hm : s.mon = .replyErr k c) (new : List Obs) (hn : new.all clientObs = true)
      (eff : MonEff s s' s.view s.slots s.skipVerify .top (new ++ .replied c (errRes k) :: s.log))
  | store (sl : Slots) (reply : Option Nat) (hm : s.mon = .store sl reply)
      (eff : MonEff s s' ⟨Facts.nextSerial s.view.serial, sl⟩ s.slots s.skipVerify (.events s.view.cfg reply)
        (.install ⟨Facts.nextSerial s.view.serial, sl⟩ s.skipVerify :: s.log))
  | events (old : Slots) (reply : Option Nat) (hm : s.mon = .events old reply)
      (eff : MonEff s s' s.view s.slots s.skipVerify (reply.elim (.submitNew old) (.replyOk old)) s.log)
  | replyOk (old : Slots) (c : Nat) (hm : s.mon = .replyOk old c) (new : List Obs) (hn : new.all clientObs = true)
      (eff : MonEff s s' s.view s.slots s.skipVerify (.submitNew old) (new ++ .replied c .okNil :: s.log))
  | submitNew (old : Slots) (hm : s.mon = .submitNew old) (o : Obs)
      (ho : o = .queued (.newCfg old s.view (s.skipVerify && s.P.suppress)) s.skipVerify ∨
        o = .dropped (.newCfg old s.view (s.skipVerify && s.P.suppress)))
      (eff : MonEff s s' s.view s.slots s.skipVerify .top (o :: s.log))
  | gotSrcErr (e : Nat) (hm : s.mon = .gotSrcErr e)
      (eff : MonEff s s' s.view s.slots s.skipVerify
        (if (s.skipVerify && s.P.suppress) then .top else .submitSrcErr e)
        (if (s.skipVerify && s.P.suppress) then .srcErrIgnored e s.skipVerify :: s.log else s.log))
  | submitSrcErr (e : Nat) (hm : s.mon = .submitSrcErr e) (o : Obs)
      (ho : o = .queued (.watchErr (.source e) s.view.cfg none) s.skipVerify ∨
        o = .dropped (.watchErr (.source e) s.view.cfg none))
      (eff : MonEff s s' s.view s.slots s.skipVerify .top (o :: s.log))
  | gotDone (src : Nat) (hm : s.mon = .gotDone src) (m : MonPc) (hm' : m = .top ∨ m = .exit)
      (eff : MonEff s s' s.view s.slots s.skipVerify m s.log)
  | gotEnable (c tok : Nat) (hm : s.mon = .gotEnable c tok)
      (eff : MonEff s s' s.view s.slots s.skipVerify
        (if s.skipVerify then .verifyEnable c tok else .enableReply c tok true true) s.log)
  | verifyEnable (c tok : Nat) (hm : s.mon = .verifyEnable c tok)
      (eff : MonEff s s' s.view s.slots s.skipVerify (.enableReply c tok (W.valid s.view.cfg) false)
        (.verify s.view.cfg (W.valid s.view.cfg) true :: s.log))
  | enableReply (c tok : Nat) (ok noop : Bool) (hm : s.mon = .enableReply c tok ok noop) (new : List Obs)
      (hn : new.all clientObs = true)
      (eff : MonEff s s' s.view s.slots (if noop then s.skipVerify else !ok) .top
        (new ++ (if noop then s.log else .enabled ok s.view :: s.log)))
  | exit (hm : s.mon = .exit) (eff : MonEff s s' s.view s.slots s.skipVerify .finished (.monExit :: s.log))

theorem MonStep.body {W : World} {s s' : State} {ch : Nat} (h : MonStep W ch s s') (hne : s.mon ≠ .top) :
    MonBody W s s' := by
  cases h with
  | sleep hm _ => exact absurd hm hne
  | take i hm _ => exact absurd hm hne
  | gotValue src v reply hm => exact .gotValue src v reply hm ⟨rfl, rfl, rfl, rfl, rfl, rfl, rfl, .of_eq rfl⟩
  | verifyUpd sl reply hm => exact .verifyUpd sl reply hm ⟨rfl, rfl, rfl, rfl, rfl, rfl, rfl, .of_eq rfl⟩
  | submitErr k new reply hm =>
    obtain ⟨o, ho, e⟩ := trySubmit_eff s (.watchErr k s.view.cfg new) ch
    rw [trySubmit_shape]
    exact .submitErr k new reply hm o ho
      ⟨rfl, rfl, rfl, rfl, rfl, rfl, congrArg (Obs.reject k reply :: ·) e, .of_eq rfl⟩
  | replyErr k c hm =>
    obtain ⟨new, e, hn, hc⟩ := replyTo_eff s c (errRes k)
    rw [replyTo_shape]
    exact .replyErr k c hm new hn ⟨rfl, rfl, rfl, rfl, rfl, rfl, e, hc⟩
  | store sl reply hm => exact .store sl reply hm ⟨rfl, rfl, rfl, rfl, rfl, rfl, rfl, .of_eq rfl⟩
  | events old reply hm => exact .events old reply hm ⟨rfl, rfl, rfl, rfl, rfl, rfl, rfl, .of_eq rfl⟩
  | replyOk old c hm =>
    obtain ⟨new, e, hn, hc⟩ := replyTo_eff s c .okNil
    rw [replyTo_shape]
    exact .replyOk old c hm new hn ⟨rfl, rfl, rfl, rfl, rfl, rfl, e, hc⟩
  | submitNew old hm =>
    obtain ⟨o, ho, e⟩ := trySubmit_eff s (.newCfg old s.view (s.skipVerify && s.P.suppress)) ch
    rw [trySubmit_shape]
    exact .submitNew old hm o ho ⟨rfl, rfl, rfl, rfl, rfl, rfl, e, .of_eq rfl⟩
  | gotSrcErr e hm =>
    refine .gotSrcErr e hm ?_
    cases hx : s.skipVerify && s.P.suppress <;> simp only [Facts.deliverSrcErr, hx] <;>
      exact ⟨rfl, rfl, rfl, rfl, rfl, rfl, rfl, .of_eq rfl⟩
  | submitSrcErr e hm =>
    obtain ⟨o, ho, e'⟩ := trySubmit_eff s (.watchErr (.source e) s.view.cfg none) ch
    rw [trySubmit_shape]
    exact .submitSrcErr e hm o ho ⟨rfl, rfl, rfl, rfl, rfl, rfl, e', .of_eq rfl⟩
  | gotDone src hm =>
    refine .gotDone src hm _ ?_ ⟨rfl, rfl, rfl, rfl, rfl, rfl, rfl, .of_eq rfl⟩
    split
    · exact .inl rfl
    · exact .inr rfl
  | gotEnable c tok hm =>
    refine .gotEnable c tok hm ?_
    cases s.skipVerify <;> exact ⟨rfl, rfl, rfl, rfl, rfl, rfl, rfl, .of_eq rfl⟩
  | verifyEnable c tok hm => exact .verifyEnable c tok hm ⟨rfl, rfl, rfl, rfl, rfl, rfl, rfl, .of_eq rfl⟩
  | enableReply c tok ok noop hm =>
    obtain ⟨new, e, hn⟩ := respondTo_eff (enableSwitch s ok noop) c tok (if ok then .enableOk s.view else .enableErr)
    refine .enableReply c tok ok noop hm new hn ?_
    rw [respondTo_shape]
    cases noop <;> exact ⟨rfl, rfl, rfl, rfl, rfl, rfl, e, fun Q hq hs => respondTo_all (hq _) c tok hs⟩
  | exit hm => exact .exit hm ⟨rfl, rfl, rfl, rfl, rfl, rfl, rfl, fun Q hq hs => release_all hq hs⟩

theorem step_cases {W : World} {s s' : State} {l : Label} (h : step W s l = some s') :
    Frame clientObs s s' ∨ ∃ ch, l = .runMon ch ∧ MonBody W s s' := by
  rcases label_cases l with hl | ⟨ch, rfl⟩
  · exact .inl ((Step.of_step h).frame hl)
  by_cases hm : s.mon = .top
  · exact .inl (frame_runMon_top hm h)
  · exact .inr ⟨ch, rfl, (MonStep.of_run h).body hm⟩

def monSubmits (s : State) : Option CbEv :=
  match s.mon with
  | .submitErr k new _ => some (.watchErr k s.view.cfg new)
  | .submitNew old => some (.newCfg old s.view (suppressedNow s))
  | .submitSrcErr e => some (.watchErr (.source e) s.view.cfg none)
  | _ => none

theorem MonStep.cb_side {W : World} {ch : Nat} {s s' : State} (h : MonStep W ch s s') :
    s'.lastSerial = s.lastSerial ∧ s'.lastVersion = s.lastVersion ∧ s'.handles = s.handles ∧
    ((s'.cb = s.cb ∧ s'.cbch = s.cbch ∧ s'.monDone = s.monDone) ∨
     (∃ ev, monSubmits s = some ev ∧ s'.cb = (trySubmit s ev ch).cb ∧ s'.cbch = (trySubmit s ev ch).cbch ∧
        s'.monDone = s.monDone) ∨
     (s.mon = .exit ∧ s'.cb = (match s.cb with | .sel => .exit | x => x) ∧ s'.cbch = s.cbch)) := by
  cases h with
  | take i hm hi => rw [monTake_shape]; exact ⟨rfl, rfl, rfl, .inl ⟨rfl, rfl, rfl⟩⟩
  | submitErr k new reply hm | submitNew old hm | submitSrcErr e hm =>
    rw [trySubmit_shape]
    exact ⟨rfl, rfl, rfl, .inr (.inl ⟨_, by rw [monSubmits, hm], rfl, rfl, rfl⟩)⟩
  | replyErr | replyOk => rw [replyTo_shape]; exact ⟨rfl, rfl, rfl, .inl ⟨rfl, rfl, rfl⟩⟩
  | gotSrcErr e hm => split <;> exact ⟨rfl, rfl, rfl, .inl ⟨rfl, rfl, rfl⟩⟩
  | enableReply c tok ok noop hm =>
    rw [respondTo_shape, enableSwitch_shape]
    exact ⟨rfl, rfl, rfl, .inl ⟨rfl, rfl, rfl⟩⟩
  | exit hm => exact ⟨rfl, rfl, rfl, .inr (.inr ⟨hm, rfl, rfl⟩)⟩
  | _ => exact ⟨rfl, rfl, rfl, .inl ⟨rfl, rfl, rfl⟩⟩

theorem CbStep.shape {s s' : State} (h : CbStep s s') :
    s' = { s with cb := s'.cb, handles := s'.handles, lastSerial := s'.lastSerial, lastVersion := s'.lastVersion,
                  cbch := s'.cbch, clients := s'.clients, log := s'.log } := by
  cases h with
  | deq ev rest _ _ => rw [admitCbSender_shape]; rfl
  | skip ev _ _ => rw [finishEv_shape, cbPre_shape]
  | call ev c cs _ _ => rw [cbPre_shape]; rfl
  | last c ev _ => rw [finishEv_shape]
  | _ => rfl

theorem CbStep.events_eq {s s' : State} (h : CbStep s s') : s'.events = s.events := by rw [h.shape]

theorem MonStep.events_eq {W : World} {ch : Nat} {s s' : State} (h : MonStep W ch s s') :
    s'.events = s.events ∨ ((∃ old r, s.mon = .events old r) ∧ s'.events = some (s.events.getD s.view)) := by
  cases h with
  | events old reply hm => exact .inr ⟨⟨old, reply, hm⟩, rfl⟩
  | take i hm hi => rw [monTake_shape]; exact .inl rfl
  | submitErr | submitNew | submitSrcErr => rw [trySubmit_shape]; exact .inl rfl
  | replyErr | replyOk => rw [replyTo_shape]; exact .inl rfl
  | gotSrcErr e hm => split <;> exact .inl rfl
  | enableReply c tok ok noop hm => rw [respondTo_shape, enableSwitch_shape]; exact .inl rfl
  | _ => exact .inl rfl

/-- what a program gets to see of the versions -/
def observed : Obs → Bool
  | .seen _ _ | .evRecv _ _ | .enter _ | .ret _ (.enableOk _) => true
  | _ => false

theorem observed_of_quiet {o : Obs} (h : quietObs o = true) : observed o = false := by
  cases o with
  | ret c r => cases r <;> first | rfl | cases h
  | _ => first | rfl | cases h

def Grows (p : Obs → Prop) (s t : State) : Prop := ∃ ext, t.log = ext ++ s.log ∧ ∀ o ∈ ext, p o

section
variable {p : Obs → Prop} {s t t' : State}

theorem Grows.of_eq (e : t.log = s.log) : Grows p s t := ⟨[], e, List.forall_mem_nil _⟩

theorem Grows.add {o : Obs} (h : Grows p s t) (ho : p o) (e : t'.log = o :: t.log) : Grows p s t' := by
  obtain ⟨ext, e', he⟩ := h
  exact ⟨o :: ext, by rw [e, e']; rfl, List.forall_mem_cons.mpr ⟨ho, he⟩⟩

theorem Grows.trans (h1 : Grows p s t) (h2 : Grows p t t') : Grows p s t' := by
  obtain ⟨e1, h1, p1⟩ := h1
  obtain ⟨e2, h2, p2⟩ := h2
  exact ⟨e2 ++ e1, by rw [h2, h1, List.append_assoc], fun o ho => (List.mem_append.mp ho).elim (p2 o) (p1 o)⟩

theorem Frame.grows {q : Obs → Bool} (hq : ∀ o, q o = true → p o) (h : Frame q s t) : Grows p s t := by
  obtain ⟨new, e, hn⟩ := h.log
  exact ⟨new, e, fun o ho => hq o (List.all_eq_true.mp hn o ho)⟩

end

def ViewOnly (s : State) (o : Obs) : Prop := observed o = true → ∃ c, o = .ret c (.enableOk s.view)

theorem ViewOnly.of_not {s : State} {o : Obs} (h : observed o = false) : ViewOnly s o :=
  fun h' => by rw [h] at h'; cases h'

theorem MonStep.log_ext {W : World} {ch : Nat} {s s' : State} (h : MonStep W ch s s') :
    Grows (ViewOnly s) s s' := by
  have sub : ∀ ev, Grows (ViewOnly s) s (trySubmit s ev ch) :=
    fun ev => by
      obtain ⟨o, ho, e⟩ := trySubmit_eff s ev ch
      exact (Grows.of_eq rfl).add (by rcases ho with rfl | rfl <;> exact .of_not rfl) e
  have rep : ∀ c r, observed (.ret c r) = false →
      Grows (ViewOnly s) s (replyTo s c r) := fun c r hr => by
    have h1 : Grows (ViewOnly s) s (s.logAdd (.replied c r)) := (Grows.of_eq rfl).add (.of_not rfl) rfl
    unfold replyTo
    dsimp only
    split
    · exact h1.add (.of_not hr) rfl
    · exact h1
  cases h with
  | take i hm hi => exact (frame_monTake s i (by rw [hm]; rfl)).grows fun o ho => .of_not (observed_of_quiet ho)
  | gotValue | verifyUpd | store | verifyEnable | exit => exact (Grows.of_eq rfl).add (.of_not rfl) rfl
  | submitErr k new reply hm => exact (sub _).add (.of_not rfl) rfl
  | submitNew | submitSrcErr => exact (sub _).trans (.of_eq rfl)
  | replyErr k c hm => exact (rep c _ (by cases k <;> rfl)).trans (.of_eq rfl)
  | replyOk old c hm => exact (rep c _ rfl).trans (.of_eq rfl)
  | gotSrcErr e hm =>
    split
    · exact .of_eq rfl
    · exact (Grows.of_eq rfl).add (.of_not rfl) rfl
  | enableReply c tok ok noop hm =>
    have h1 : Grows (ViewOnly s) s (enableSwitch s ok noop) := by
      cases noop
      · exact (Grows.of_eq rfl).add (.of_not rfl) rfl
      · exact .of_eq rfl
    refine Grows.trans (t := respondTo (enableSwitch s ok noop) c tok (if ok then .enableOk s.view else .enableErr)) ?_
      (.of_eq rfl)
    unfold respondTo
    split
    · split
      · refine h1.add (fun _ => ?_) rfl
        cases ok
        · contradiction
        · exact ⟨c, rfl⟩
      · exact h1
    · exact h1
  | _ => exact .of_eq rfl

end Dials.Runtime
