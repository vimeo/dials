/-
Inductive invariants of the runtime model for C07 and C09: the skipVerify flag and what was verified
(`InvA`), nothing of the enabling machinery moves before `EnableVerification` is called (`InvB`), a blocking
report is answered after its value was stacked or rejected (`InvC`).  They are not the `InvA`, `InvB`,
`InvC` of Lemmas/RuntimeInv.lean; the two files are never imported together.
-/
import DialsModel.Lemmas.RuntimeFrame

namespace Dials.Runtime

/-- the log is newest first: `l` is what was logged before `o` -/
def AllSuffix (Q : Obs → List Obs → Prop) : List Obs → Prop
  | [] => True
  | o :: l => Q o l ∧ AllSuffix Q l

@[simp] theorem AllSuffix_nil (Q : Obs → List Obs → Prop) : AllSuffix Q [] = True := rfl
@[simp] theorem AllSuffix_cons (Q : Obs → List Obs → Prop) (o : Obs) (l : List Obs) :
    AllSuffix Q (o :: l) = (Q o l ∧ AllSuffix Q l) := rfl

theorem AllSuffix.split {Q : Obs → List Obs → Prop} : ∀ {log : List Obs}, AllSuffix Q log →
    ∀ l1 o l2, log = l1 ++ o :: l2 → Q o l2 := by
  intro log
  induction log with
  | nil => intro _ l1 o l2 h; simp at h
  | cons a log ih =>
    intro hq l1 o l2 h
    cases l1 with
    | nil =>
      simp only [List.nil_append, List.cons.injEq] at h
      obtain ⟨rfl, rfl⟩ := h
      exact hq.1
    | cons b l1 =>
      simp only [List.cons_append, List.cons.injEq] at h
      exact ih hq.2 l1 o l2 h.2

theorem AllSuffix.mem {Q : Obs → List Obs → Prop} {log : List Obs} (h : AllSuffix Q log) {o : Obs} (ho : o ∈ log) :
    ∃ l2, Q o l2 := by
  obtain ⟨l1, l2, e⟩ := List.append_of_mem ho
  exact ⟨l2, h.split l1 o l2 e⟩

theorem AllSuffix.append {Q : Obs → List Obs → Prop} {new log : List Obs} (hn : ∀ o ∈ new, ∀ l, Q o l)
    (h : AllSuffix Q log) : AllSuffix Q (new ++ log) := by
  induction new with
  | nil => exact h
  | cons a new ih =>
    simp only [List.cons_append, AllSuffix_cons]
    exact ⟨hn a (by simp) _, ih (fun o ho => hn o (by simp [ho]))⟩

theorem AllSuffix.append_all {Q : Obs → List Obs → Prop} {p : Obs → Bool} (hp : ∀ o, p o = true → ∀ l, Q o l)
    {new log : List Obs} (hn : new.all p = true) (h : AllSuffix Q log) : AllSuffix Q (new ++ log) :=
  h.append fun o ho => hp o (List.all_eq_true.mp hn o ho)

def QA (W : World) (P : Params) (o : Obs) (l : List Obs) : Prop :=
  match o with
  | .install v skip => (skip = false → W.valid v.cfg = true) ∧ (skip = true → ∀ v', Obs.enabled true v' ∉ l)
  | .queued (.newCfg _ _ supp) skip => supp = (skip && P.suppress)
  | .dropped (.newCfg _ _ supp) => supp = true → P.suppress = true ∧ P.delay = true
  | .srcErrIgnored _ skip => skip = true ∧ P.suppress = true ∧ P.delay = true
  | .withheld ev _ => ∃ old new, ev = .newCfg old new true
  | _ => True

theorem QA_of_clientObs {W : World} {P : Params} (o : Obs) (h : clientObs o = true) (l : List Obs) : QA W P o l := by
  cases o <;> simp [clientObs] at h <;> simp [QA]
  rename_i ev skip
  cases ev with
  | newCfg old new supp => cases supp <;> simp at h; exact ⟨old, new, rfl⟩
  | _ => simp at h

structure InvA (W : World) (P : Params) (s : State) : Prop where
  hP : s.P = P
  skip : s.skipVerify = true → P.delay = true ∧ ∀ v, Obs.enabled true v ∉ s.log
  store : ∀ sl r, s.mon = .store sl r → s.skipVerify = false → W.valid sl = true
  ven : ∀ c tok, s.mon = .verifyEnable c tok → s.skipVerify = true
  ren : ∀ c tok ok, s.mon = .enableReply c tok ok false → s.skipVerify = true
  log : AllSuffix (QA W P) s.log

theorem InvA.init (W : World) (P : Params) (sl : Slots) (w : List Bool) : InvA W P (initState P sl w) := by
  refine ⟨rfl, ?_, ?_, ?_, ?_, ?_⟩ <;> simp [initState, Facts.initialSkipVerify]

theorem mem_clientObs_append {new l : List Obs} {o : Obs} (hn : new.all clientObs = true) (ho : clientObs o = false) :
    o ∈ new ++ l ↔ o ∈ l := by
  rw [List.mem_append]
  constructor
  · rintro (h | h)
    · have := List.all_eq_true.mp hn o h
      rw [ho] at this; cases this
    · exact h
  · exact .inr

def pcA (W : World) (skip : Bool) : MonPc → Prop
  | .store sl _ => skip = false → W.valid sl = true
  | .verifyEnable _ _ => skip = true
  | .enableReply _ _ _ false => skip = true
  | _ => True

theorem InvA.pc {W : World} {P : Params} {s : State} (hi : InvA W P s) : pcA W s.skipVerify s.mon := by
  cases hm : s.mon with
  | store sl r => exact hi.store sl r hm
  | verifyEnable c tok => exact hi.ven c tok hm
  | enableReply c tok ok noop =>
    cases noop with
    | false => exact hi.ren c tok ok hm
    | true => trivial
  | _ => trivial

theorem InvA.of_pc {W : World} {P : Params} {s : State} (hP : s.P = P)
    (h1 : s.skipVerify = true → P.delay = true ∧ ∀ v, Obs.enabled true v ∉ s.log)
    (hpc : pcA W s.skipVerify s.mon) (hl : AllSuffix (QA W P) s.log) : InvA W P s :=
  ⟨hP, h1, fun _ _ e => by rw [e] at hpc; exact hpc, fun _ _ e => by rw [e] at hpc; exact hpc,
    fun _ _ _ e => by rw [e] at hpc; exact hpc, hl⟩

theorem InvA.frame {W : World} {P : Params} {s s' : State} (hf : Frame clientObs s s') (hi : InvA W P s) :
    InvA W P s' := by
  obtain ⟨new, hlog, hnew⟩ := hf.log
  refine .of_pc (hf.P.trans hi.hP) ?_ ?_ (hlog ▸ hi.log.append_all QA_of_clientObs hnew)
  · intro hs
    rw [hf.skip] at hs
    refine ⟨(hi.skip hs).1, fun v hv => (hi.skip hs).2 v ?_⟩
    rwa [hlog, mem_clientObs_append hnew rfl] at hv
  · rw [hf.skip]
    rcases hf.mon with e | ⟨_, e⟩
    · rw [e]; exact hi.pc
    · generalize s'.mon = m at e
      cases m <;> first | trivial | (rcases e with e | e <;> cases e)

theorem InvA.of_eff {W : World} {P : Params} {s s' : State} {vw : Version} {sl : Slots} {sk : Bool} {m : MonPc}
    {lg : List Obs} (eff : MonEff s s' vw sl sk m lg) (hP : s.P = P)
    (h1 : sk = true → P.delay = true ∧ ∀ v, Obs.enabled true v ∉ lg) (hpc : pcA W sk m)
    (h5 : AllSuffix (QA W P) lg) : InvA W P s' :=
  .of_pc (eff.P.trans hP) (by rw [eff.skip, eff.log]; exact h1) (by rw [eff.skip, eff.mon]; exact hpc)
    (by rw [eff.log]; exact h5)

theorem InvA.next {W : World} {P : Params} {s s' : State} {l : Label} (hi : InvA W P s) (h : step W s l = some s') :
    InvA W P s' := by
  rcases step_cases h with hf | ⟨ch, rfl, hb⟩
  · exact hi.frame hf
  have hP := hi.hP
  have hlog := hi.log
  have hskip := hi.skip
  have hpc := hi.pc
  have ext : ∀ {new : List Obs} {o : Obs}, new.all clientObs = true → (∀ v, Obs.enabled true v ≠ o) →
      s.skipVerify = true → P.delay = true ∧ ∀ v, Obs.enabled true v ∉ new ++ o :: s.log := by
    intro new o hn ho hs
    refine ⟨(hskip hs).1, fun v hv => ?_⟩
    rw [mem_clientObs_append hn rfl] at hv
    exact (List.mem_cons.mp hv).elim (ho v) ((hskip hs).2 v)
  cases hb with
  | gotValue src v reply hm eff =>
    refine InvA.of_eff eff hP (by simpa using hskip) ?_ ⟨trivial, hlog⟩
    split
    · trivial
    · split
      · trivial
      · next hs => intro hs'; rw [hs'] at hs; cases hs rfl
  | verifyUpd sl reply hm eff =>
    refine InvA.of_eff eff hP (by simpa using hskip) ?_ ⟨trivial, hlog⟩
    split
    · next hv => exact fun _ => hv
    · trivial
  | submitErr k new reply hm o ho eff =>
    refine InvA.of_eff eff hP ?_ (by cases reply <;> trivial) ?_
    · rcases ho with rfl | rfl <;> simpa using hskip
    · rcases ho with rfl | rfl <;> exact ⟨trivial, trivial, hlog⟩
  | replyErr k c hm new hn eff | replyOk old c hm new hn eff =>
    exact InvA.of_eff eff hP (ext hn nofun) trivial (AllSuffix.append_all QA_of_clientObs hn ⟨trivial, hlog⟩)
  | store sl reply hm eff =>
    rw [hm] at hpc
    exact InvA.of_eff eff hP (by simpa using hskip) trivial
      ⟨⟨hpc, fun hs => (hskip hs).2⟩, hlog⟩
  | events old reply hm eff =>
    exact InvA.of_eff eff hP hskip (by cases reply <;> trivial) hlog
  | submitNew old hm o ho eff =>
    refine InvA.of_eff eff hP ?_ trivial ?_
    · rcases ho with rfl | rfl <;> simpa using hskip
    · rcases ho with rfl | rfl
      · exact ⟨by rw [hP]; rfl, hlog⟩
      · refine ⟨fun hx => ?_, hlog⟩
        rw [hP, Bool.and_eq_true] at hx
        exact ⟨hx.2, (hskip hx.1).1⟩
  | gotSrcErr e hm eff =>
    refine InvA.of_eff eff hP ?_ (by split <;> trivial) ?_
    · intro hs; split <;> simpa using hskip hs
    · split
      · next hx =>
        rw [hP, Bool.and_eq_true] at hx
        exact ⟨⟨hx.1, hx.2, (hskip hx.1).1⟩, hlog⟩
      · exact hlog
  | submitSrcErr e hm o ho eff =>
    refine InvA.of_eff eff hP ?_ trivial ?_
    · rcases ho with rfl | rfl <;> simpa using hskip
    · rcases ho with rfl | rfl <;> exact ⟨trivial, hlog⟩
  | gotDone src hm m hm' eff =>
    exact InvA.of_eff eff hP hskip (by rcases hm' with rfl | rfl <;> trivial) hlog
  | gotEnable c tok hm eff =>
    refine InvA.of_eff eff hP hskip ?_ hlog
    split
    · assumption
    · trivial
  | verifyEnable c tok hm eff =>
    rw [hm] at hpc
    exact InvA.of_eff eff hP (by simpa using hskip) hpc ⟨trivial, hlog⟩
  | enableReply c tok ok noop hm new hn eff =>
    rw [hm] at hpc
    cases noop with
    | false =>
      refine InvA.of_eff eff hP (fun hok => ?_) trivial (AllSuffix.append_all QA_of_clientObs hn ⟨trivial, hlog⟩)
      cases ok
      · exact ext hn nofun hpc
      · cases hok
    | true =>
      refine InvA.of_eff eff hP (fun hs => ?_) trivial (AllSuffix.append_all QA_of_clientObs hn hlog)
      refine ⟨(hskip hs).1, fun v hv => (hskip hs).2 v ?_⟩
      rwa [mem_clientObs_append hn rfl] at hv
  | exit hm eff =>
    exact InvA.of_eff eff hP (by simpa using hskip) trivial ⟨trivial, hlog⟩

theorem InvA.reachable {W : World} {P : Params} {sl : Slots} {w : List Bool} {s : State}
    (hr : Reachable W P sl w s) : InvA W P s :=
  reachable_induction (InvA.init W P sl w) (fun _ _ _ hi h => hi.next h) hr

theorem skip_step {W : World} {s s' : State} {l : Label} (h : step W s l = some s') :
    s'.skipVerify = s.skipVerify ∨
    ∃ c tok ok ch, s.mon = .enableReply c tok ok false ∧ l = .runMon ch ∧ s'.skipVerify = !ok := by
  rcases step_cases h with hf | ⟨ch, rfl, hb⟩
  · exact .inl hf.skip
  cases hb with
  | enableReply c tok ok noop hm new hn eff =>
    cases noop
    · exact .inr ⟨c, tok, ok, ch, hm, rfl, eff.skip⟩
    · exact .inl eff.skip
  | _ => exact .inl (MonEff.skip ‹_›)

def sinceUpd (log : List Obs) : List Obs := log.takeWhile (fun o => !isGotUpd o)
def lastUpd (log : List Obs) : Option Obs := (log.dropWhile (fun o => !isGotUpd o)).head?

theorem sinceUpd_cons_not {o : Obs} (h : isGotUpd o = false) (l : List Obs) : sinceUpd (o :: l) = o :: sinceUpd l := by
  simp [sinceUpd, List.takeWhile, h]
theorem lastUpd_cons_not {o : Obs} (h : isGotUpd o = false) (l : List Obs) : lastUpd (o :: l) = lastUpd l := by
  simp [lastUpd, List.dropWhile, h]
@[simp] theorem sinceUpd_cons_upd (a b : Nat) (c : Option Nat) (l : List Obs) : sinceUpd (.gotUpd a b c :: l) = [] := by
  simp [sinceUpd, List.takeWhile, isGotUpd]
@[simp] theorem lastUpd_cons_upd (a b : Nat) (c : Option Nat) (l : List Obs) :
    lastUpd (.gotUpd a b c :: l) = some (.gotUpd a b c) := by
  simp [lastUpd, List.dropWhile, isGotUpd]

theorem plain_not_upd {o : Obs} (h : plain o = true) : isGotUpd o = false := by
  simp [plain] at h; exact h.1
theorem plain_not_install {o : Obs} (h : plain o = true) : isInstall o = false := by
  simp [plain] at h; exact h.2

theorem sinceUpd_append_plain {new : List Obs} (hn : new.all plain = true) (l : List Obs) :
    sinceUpd (new ++ l) = new ++ sinceUpd l := by
  induction new with
  | nil => rfl
  | cons a new ih =>
    simp only [List.all_cons, Bool.and_eq_true] at hn
    rw [List.cons_append, sinceUpd_cons_not (plain_not_upd hn.1), ih hn.2, List.cons_append]

theorem lastUpd_append_plain {new : List Obs} (hn : new.all plain = true) (l : List Obs) :
    lastUpd (new ++ l) = lastUpd l := by
  induction new with
  | nil => rfl
  | cons a new ih =>
    simp only [List.all_cons, Bool.and_eq_true] at hn
    rw [List.cons_append, lastUpd_cons_not (plain_not_upd hn.1), ih hn.2]

theorem filter_install_append_plain {new : List Obs} (hn : new.all plain = true) (l : List Obs) :
    (new ++ l).filter isInstall = l.filter isInstall := by
  induction new with
  | nil => rfl
  | cons a new ih =>
    simp only [List.all_cons, Bool.and_eq_true] at hn
    rw [List.cons_append, List.filter_cons, plain_not_install hn.1, ih hn.2]
    simp

theorem split_of_lastUpd {l : List Obs} {o : Obs} (h : lastUpd l = some o) :
    ∃ l2b, l = sinceUpd l ++ o :: l2b ∧ (sinceUpd l).all (fun o => !isGotUpd o) = true := by
  unfold lastUpd at h
  have h1 : l = sinceUpd l ++ l.dropWhile (fun o => !isGotUpd o) := (List.takeWhile_append_dropWhile).symm
  cases hd : l.dropWhile (fun o => !isGotUpd o) with
  | nil => rw [hd] at h; simp at h
  | cons a rest =>
    rw [hd] at h h1
    simp only [List.head?_cons, Option.some.injEq] at h
    subst h
    exact ⟨rest, h1, List.all_takeWhile⟩

theorem setSlot_length (sl : Slots) (src v : Nat) : (setSlot sl src v).length = sl.length := by
  induction sl generalizing src with
  | nil => rfl
  | cons a sl ih => cases src <;> simp [setSlot, ih]

theorem setSlot_get (sl : Slots) (src v : Nat) (h : src < (setSlot sl src v).length) :
    (setSlot sl src v)[src]? = some v := by
  induction sl generalizing src with
  | nil => simp [setSlot] at h
  | cons a sl ih =>
    cases src with
    | zero => simp [setSlot]
    | succ n =>
      simp only [setSlot, List.length_cons, Nat.add_lt_add_iff_right] at h
      simp [setSlot, ih n h]

def UpdNo (log : List Obs) (c : Nat) (sl : Slots) : Prop :=
  ∃ src v, lastUpd log = some (.gotUpd src v (some c)) ∧ (sinceUpd log).filter isInstall = [] ∧
    (src < sl.length → sl[src]? = some v)
def UpdOne (log : List Obs) (c : Nat) : Prop :=
  ∃ src v ver skip, lastUpd log = some (.gotUpd src v (some c)) ∧
    (sinceUpd log).filter isInstall = [.install ver skip] ∧ (src < ver.cfg.length → ver.cfg[src]? = some v)
def UpdErr (log : List Obs) (c : Nat) : Prop :=
  ∃ src v, lastUpd log = some (.gotUpd src v (some c)) ∧ (sinceUpd log).filter isInstall = []

def pcC (m : MonPc) (view : Version) (slots : Slots) (log : List Obs) : Prop :=
  match m with
  | .verifyUpd sl r => sl = slots ∧ ∀ c, r = some c → UpdNo log c sl
  | .store sl r => sl = slots ∧ ∀ c, r = some c → UpdNo log c sl
  | .events _ r => view.cfg = slots ∧ 1 ≤ view.serial ∧ ∀ c, r = some c → UpdOne log c
  | .replyOk _ c => view.cfg = slots ∧ 1 ≤ view.serial ∧ UpdOne log c
  | .submitErr _ _ r => ∀ c, r = some c → UpdErr log c
  | .replyErr k c => UpdErr log c ∧ .reject k (some c) ∈ sinceUpd log
  | _ => True

theorem UpdNo.prepend {log : List Obs} {c : Nat} {sl : Slots} (h : UpdNo log c sl) {new : List Obs}
    (hn : new.all plain = true) : UpdNo (new ++ log) c sl := by
  unfold UpdNo at h ⊢
  rwa [lastUpd_append_plain hn, sinceUpd_append_plain hn, filter_install_append_plain hn]

theorem UpdOne.prepend {log : List Obs} {c : Nat} (h : UpdOne log c) {new : List Obs}
    (hn : new.all plain = true) : UpdOne (new ++ log) c := by
  unfold UpdOne at h ⊢
  rwa [lastUpd_append_plain hn, sinceUpd_append_plain hn, filter_install_append_plain hn]

theorem UpdErr.prepend {log : List Obs} {c : Nat} (h : UpdErr log c) {new : List Obs}
    (hn : new.all plain = true) : UpdErr (new ++ log) c := by
  unfold UpdErr at h ⊢
  rwa [lastUpd_append_plain hn, sinceUpd_append_plain hn, filter_install_append_plain hn]

theorem UpdNo.toErr {log : List Obs} {c : Nat} {sl : Slots} (h : UpdNo log c sl) : UpdErr log c := by
  obtain ⟨src, v, h1, h2, _⟩ := h
  exact ⟨src, v, h1, h2⟩

theorem pcC.prepend {m : MonPc} {view : Version} {slots : Slots} {log : List Obs} (h : pcC m view slots log)
    {new : List Obs} (hn : new.all plain = true) : pcC m view slots (new ++ log) := by
  unfold pcC at h ⊢
  split <;> simp only at h ⊢
  · exact ⟨h.1, fun c hc => (h.2 c hc).prepend hn⟩
  · exact ⟨h.1, fun c hc => (h.2 c hc).prepend hn⟩
  · exact ⟨h.1, h.2.1, fun c hc => (h.2.2 c hc).prepend hn⟩
  · exact ⟨h.1, h.2.1, h.2.2.prepend hn⟩
  · exact fun c hc => (h c hc).prepend hn
  · refine ⟨h.1.prepend hn, ?_⟩
    rw [sinceUpd_append_plain hn]
    exact List.mem_append_right _ h.2

def ConclOk (c : Nat) (l2 : List Obs) : Prop :=
  ∃ l2a l2b src v ver skip, l2 = l2a ++ Obs.gotUpd src v (some c) :: l2b ∧
    l2a.all (fun o => !isGotUpd o) = true ∧ l2a.filter isInstall = [Obs.install ver skip] ∧
    (src < ver.cfg.length → ver.cfg[src]? = some v)

def ConclErr (c : Nat) (r : Res) (l2 : List Obs) : Prop :=
  ∃ l2a l2b src v k, l2 = l2a ++ Obs.gotUpd src v (some c) :: l2b ∧
    l2a.all (fun o => !isGotUpd o) = true ∧ l2a.filter isInstall = [] ∧
    Obs.reject k (some c) ∈ l2a ∧ r = errRes k

def QC (o : Obs) (l : List Obs) : Prop :=
  match o with
  | .replied c r => (r = .okNil → ConclOk c l) ∧ (r ≠ .okNil → ConclErr c r l)
  | _ => True

theorem QC_of_not_replied {o : Obs} (h : ∀ c r, o ≠ .replied c r) (l : List Obs) : QC o l := by
  cases o <;> simp [QC]
  rename_i c r
  exact absurd rfl (h c r)

theorem QC_of_clientObs (o : Obs) (h : clientObs o = true) (l : List Obs) : QC o l := by
  apply QC_of_not_replied
  intro c r e
  subst e
  simp [clientObs] at h

theorem UpdOne.concl {log : List Obs} {c : Nat} (h : UpdOne log c) : ConclOk c log := by
  obtain ⟨src, v, ver, skip, h1, h2, h3⟩ := h
  obtain ⟨l2b, e, ha⟩ := split_of_lastUpd h1
  exact ⟨sinceUpd log, l2b, src, v, ver, skip, e, ha, h2, h3⟩

theorem UpdErr.concl {log : List Obs} {c : Nat} {k : ErrK} (h : UpdErr log c) (hk : .reject k (some c) ∈ sinceUpd log) :
    ConclErr c (errRes k) log := by
  obtain ⟨src, v, h1, h2⟩ := h
  obtain ⟨l2b, e, ha⟩ := split_of_lastUpd h1
  exact ⟨sinceUpd log, l2b, src, v, k, e, ha, h2, hk, rfl⟩

theorem pcC_of_idle_or_wake {m : MonPc} (h : m.idle = true ∨ monWake m = true) (view : Version) (slots : Slots)
    (log : List Obs) : pcC m view slots log := by
  cases m <;> simp [MonPc.idle, monWake] at h <;> simp [pcC]

structure InvC (s : State) : Prop where
  pc : pcC s.mon s.view s.slots s.log
  log : AllSuffix QC s.log

theorem InvC.init (P : Params) (sl : Slots) (w : List Bool) : InvC (initState P sl w) :=
  ⟨by simp [initState, pcC], by simp [initState]⟩

theorem InvC.frame {s s' : State} (hf : Frame clientObs s s') (hi : InvC s) : InvC s' := by
  obtain ⟨new, hlog, hnew⟩ := hf.log
  refine ⟨?_, ?_⟩
  · rcases hf.mon with e | ⟨_, e⟩
    · rw [e, hf.view, hf.slots, hlog]
      exact hi.pc.prepend (all_plain_of_clientObs hnew)
    · exact pcC_of_idle_or_wake e _ _ _
  · rw [hlog]
    exact AllSuffix.append_all QC_of_clientObs hnew hi.log

theorem InvC.of_eff {s s' : State} {vw : Version} {sl : Slots} {sk : Bool} {m : MonPc}
    {lg : List Obs} (eff : MonEff s s' vw sl sk m lg) (h1 : pcC m vw sl lg) (h2 : AllSuffix QC lg) : InvC s' := by
  refine ⟨?_, ?_⟩
  · rw [eff.mon, eff.view, eff.slots, eff.log]; exact h1
  · rw [eff.log]; exact h2

theorem InvC.next {W : World} {s s' : State} {l : Label} (hi : InvC s) (h : step W s l = some s') : InvC s' := by
  rcases step_cases h with hf | ⟨ch, rfl, hb⟩
  · exact hi.frame hf
  have hlog := hi.log
  have hpc := hi.pc
  cases hb with
  | gotValue src v reply hm eff =>
    refine InvC.of_eff eff ?_ ⟨trivial, hlog⟩
    have hu : ∀ c, reply = some c → UpdNo (.gotUpd src v reply :: s.log) c (setSlot s.slots src v) := by
      intro c hc; subst hc
      exact ⟨src, v, by simp, by simp, setSlot_get _ _ _⟩
    split
    · exact fun c hc => (hu c hc).toErr
    · split
      · exact ⟨rfl, hu⟩
      · exact ⟨rfl, hu⟩
  | verifyUpd sl reply hm eff =>
    rw [hm] at hpc
    simp only [pcC] at hpc
    have hp : [Obs.verify sl (W.valid sl) false].all plain = true := rfl
    refine InvC.of_eff eff ?_ ⟨trivial, hlog⟩
    split
    · exact ⟨hpc.1, fun c hc => (hpc.2 c hc).prepend hp⟩
    · exact fun c hc => ((hpc.2 c hc).prepend hp).toErr
  | submitErr k new reply hm o ho eff =>
    rw [hm] at hpc
    simp only [pcC] at hpc
    have hp : [Obs.reject k reply, o].all plain = true := by rcases ho with rfl | rfl <;> rfl
    have hq : AllSuffix QC (Obs.reject k reply :: o :: s.log) := by
      rcases ho with rfl | rfl <;> exact ⟨trivial, trivial, hlog⟩
    refine InvC.of_eff eff ?_ hq
    cases reply with
    | none => trivial
    | some c =>
      refine ⟨(hpc c rfl).prepend hp, ?_⟩
      rw [show Obs.reject k (some c) :: o :: s.log = [Obs.reject k (some c), o] ++ s.log from rfl,
        sinceUpd_append_plain hp]
      exact List.mem_cons_self
  | replyErr k c hm new hn eff =>
    rw [hm] at hpc
    simp only [pcC] at hpc
    refine InvC.of_eff eff trivial ?_
    refine AllSuffix.append_all QC_of_clientObs hn ?_
    simp only [AllSuffix_cons, QC]
    refine ⟨⟨fun e => ?_, fun _ => hpc.1.concl hpc.2⟩, hlog⟩
    cases k <;> cases e
  | store sl reply hm eff =>
    rw [hm] at hpc
    simp only [pcC] at hpc
    refine InvC.of_eff eff ?_ ⟨trivial, hlog⟩
    refine ⟨hpc.1, by simp [Facts.nextSerial], fun c hc => ?_⟩
    obtain ⟨src, v, h1, h2, h3⟩ := hpc.2 c hc
    have hi' : isGotUpd (Obs.install ⟨Facts.nextSerial s.view.serial, sl⟩ s.skipVerify) = false := rfl
    refine ⟨src, v, ⟨Facts.nextSerial s.view.serial, sl⟩, s.skipVerify, ?_, ?_, h3⟩
    · rw [lastUpd_cons_not hi', h1]
    · rw [sinceUpd_cons_not hi', List.filter_cons, h2]; rfl
  | events old reply hm eff =>
    rw [hm] at hpc
    simp only [pcC] at hpc
    refine InvC.of_eff eff ?_ hlog
    cases reply with
    | none => trivial
    | some c => exact ⟨hpc.1, hpc.2.1, hpc.2.2 _ rfl⟩
  | replyOk old c hm new hn eff =>
    rw [hm] at hpc
    simp only [pcC] at hpc
    refine InvC.of_eff eff trivial ?_
    refine AllSuffix.append_all QC_of_clientObs hn ?_
    simp only [AllSuffix_cons, QC]
    exact ⟨⟨fun _ => hpc.2.2.concl, fun e => absurd rfl e⟩, hlog⟩
  | submitNew old hm o ho eff | submitSrcErr e hm o ho eff =>
    exact InvC.of_eff eff trivial (by rcases ho with rfl | rfl <;> exact ⟨trivial, hlog⟩)
  | gotSrcErr e hm eff =>
    refine InvC.of_eff eff ?_ ?_
    · split <;> trivial
    · split
      · exact ⟨trivial, hlog⟩
      · exact hlog
  | gotDone src hm m hm' eff =>
    exact InvC.of_eff eff (by rcases hm' with rfl | rfl <;> trivial) hlog
  | gotEnable c tok hm eff =>
    refine InvC.of_eff eff ?_ hlog
    split <;> trivial
  | verifyEnable c tok hm eff | exit hm eff => exact InvC.of_eff eff trivial ⟨trivial, hlog⟩
  | enableReply c tok ok noop hm new hn eff =>
    refine InvC.of_eff eff trivial ?_
    refine AllSuffix.append_all QC_of_clientObs hn ?_
    split
    · exact hlog
    · exact ⟨trivial, hlog⟩

theorem InvC.reachable {W : World} {P : Params} {sl : Slots} {w : List Bool} {s : State}
    (hr : Reachable W P sl w s) : InvC s :=
  reachable_induction (InvC.init P sl w) (fun _ _ _ hi h => hi.next h) hr

def notCtl : CSt → Prop
  | .sendCtl _ => False
  | .waitResp _ => False
  | _ => True

def Called (log : List Obs) : Prop := ∃ c, Obs.enableCalled c ∈ log

/-- pcs the monitor cannot be at before the first enable call (`verifyUpd`: verification is still off) -/
def monNoEn : MonPc → Bool
  | .verifyUpd _ _ | .gotEnable _ _ | .verifyEnable _ _ | .enableReply _ _ _ _ => false
  | _ => true

def ClOK (s s' : State) : Prop := (∀ p ∈ s.clients, notCtl p.2) → ∀ p ∈ s'.clients, notCtl p.2

structure FB (s s' : State) : Prop where
  grow : ∃ new, s'.log = new ++ s.log
  keep : Called s'.log ∨ (s'.monCtl = s.monCtl ∧ ClOK s s' ∧ (s'.mon = s.mon ∨ monNoEn s'.mon = true))

theorem Called.grow {l new : List Obs} (h : Called l) : Called (new ++ l) := by
  obtain ⟨c, hc⟩ := h
  exact ⟨c, List.mem_append_right _ hc⟩

theorem FB.trans {s s' s'' : State} (h1 : FB s s') (h2 : FB s' s'') : FB s s'' := by
  obtain ⟨n1, e1⟩ := h1.grow
  obtain ⟨n2, e2⟩ := h2.grow
  refine ⟨⟨n2 ++ n1, by rw [e2, e1, List.append_assoc]⟩, ?_⟩
  rcases h2.keep with c2 | ⟨a2, b2, m2⟩
  · exact .inl c2
  rcases h1.keep with c1 | ⟨a1, b1, m1⟩
  · exact .inl (e2 ▸ c1.grow)
  refine .inr ⟨a2.trans a1, fun h => b2 (b1 h), ?_⟩
  rcases m2 with m2 | m2
  · rcases m1 with m1 | m1
    · exact .inl (m2.trans m1)
    · exact .inr (m2 ▸ m1)
  · exact .inr m2

theorem FB.of_eq {s s' : State} (hl : s'.log = s.log) (hc : s'.monCtl = s.monCtl) (hcl : s'.clients = s.clients)
    (hm : s'.mon = s.mon ∨ monNoEn s'.mon = true) : FB s s' :=
  ⟨⟨[], by simp [hl]⟩, .inr ⟨hc, fun h => hcl ▸ h, hm⟩⟩

theorem FB.of_frame {p : Obs → Bool} {s s' : State} (hf : Frame p s s') (hc : s'.monCtl = s.monCtl) (hcl : ClOK s s')
    (hm : s'.mon = s.mon) : FB s s' :=
  ⟨hf.log.imp fun _ h => h.1, .inr ⟨hc, hcl, .inl hm⟩⟩

theorem fb_logAdd (s : State) (o : Obs) : FB s (s.logAdd o) :=
  ⟨⟨[o], rfl⟩, .inr ⟨rfl, id, .inl rfl⟩⟩

theorem fb_setClient (s : State) (c : Nat) {st : CSt} (h : notCtl st) : FB s (s.setClient c st) :=
  ⟨⟨[], rfl⟩, .inr ⟨rfl, fun hs => setC_all hs h, .inl rfl⟩⟩

theorem fb_blockClient (s : State) (c : Nat) {st : CSt} (h : notCtl st) : FB s (s.blockClient c st) := by
  refine ⟨⟨[], rfl⟩, .inr ⟨rfl, fun hs p hp => ?_, .inl rfl⟩⟩
  simp only [State.blockClient, List.mem_append, List.mem_filter, List.mem_singleton] at hp
  rcases hp with hp | rfl
  · exact hs p hp.1
  · exact h

theorem fb_ret (s : State) (c : Nat) (r : Res) : FB s (s.ret c r) :=
  ⟨⟨[.ret c r], rfl⟩, .inr ⟨rfl, fun hs => setC_all hs trivial, .inl rfl⟩⟩

theorem fb_waitOr (s : State) (c ctx : Nat) {st : CSt} (r : Res) (h : notCtl st) : FB s (s.waitOr c ctx st r) := by
  unfold State.waitOr
  split
  · exact fb_ret ..
  · exact fb_setClient _ _ h

theorem fb_monTake_msg (s : State) (c : Nat) (m : Msg) : FB s (monTake s (.msg c m)) := by
  simp only [monTake]
  have h1 : FB s (match m with
    | .value src v reply => { s with mon := .gotValue src v reply }
    | .srcErr _ e => { s with mon := .gotSrcErr e }
    | .done src => { s with mon := .gotDone src }) := by
    split <;> exact FB.of_eq rfl rfl rfl (.inr rfl)
  split
  · exact h1.trans (fb_waitOr _ _ _ _ trivial)
  · exact h1.trans (fb_ret ..)

theorem fb_offerW (s : State) (c : Nat) (m : Msg) (ctx ch : Nat) : FB s (offerW s c m ctx ch) := by
  unfold offerW
  dsimp only
  split
  · exact (fb_setClient s c (st := .sendW m ctx) trivial).trans (fb_monTake_msg _ _ _)
  · split
    · exact fb_ret ..
    · exact fb_blockClient _ _ trivial

theorem fb_cancelCtx (s : State) (ctx : Nat) : FB s (cancelCtx s ctx) := by
  refine ⟨⟨[], by rw [cancelCtx_shape]; rfl⟩,
    .inr ⟨by rw [cancelCtx_shape], fun hs => cancelCtx_all (fun _ => trivial) ctx hs, ?_⟩⟩
  unfold cancelCtx
  dsimp only
  split
  · exact .inr rfl
  · exact .inl rfl

theorem CbStep.fb {s s' : State} (h : CbStep s s') : FB s s' :=
  .of_frame h.frame (by rw [h.shape]) (h.clients_all (fun _ => trivial) fun _ => trivial) (by rw [h.shape])

theorem ClStep.fb {s s' : State} {c ch : Nat} (h : ClStep s c ch s') : FB s s' := by
  cases h with
  | view ctx hc => exact (fb_ret s c _).trans (fb_logAdd _ _)
  | recv ctx v hc he =>
    exact FB.trans (s' := { s with events := none }) (.of_eq rfl rfl rfl (.inl rfl))
      ((fb_ret _ c _).trans (fb_logAdd _ _))
  | noEvent | enableNow => exact fb_ret ..
  | report | reportErr | done => exact fb_offerW ..
  | register | unregister =>
    exact .of_frame (frame_offerCb ..) (by rw [offerCb_shape]) (offerCb_all (fun _ => trivial) trivial trivial c ch)
      (by rw [offerCb_shape])
  | enable ctx hc hd =>
    obtain ⟨new, e, _⟩ := (frame_offerCtl s c ctx ch).log
    have e' : (offerCtl s c ctx ch).log = new ++ .enableCalled c :: s.log := e
    exact ⟨⟨new ++ [.enableCalled c], by rw [e']; simp⟩, .inl ⟨c, by rw [e']; simp⟩⟩

theorem Step.fb {W : World} {s s' : State} {l : Label} (h : Step W s l s') (hl : ∀ ch, l ≠ .runMon ch) : FB s s' := by
  cases h with
  | «begin» | ack => exact fb_setClient _ _ trivial
  | mon ch h => exact absurd rfl (hl ch)
  | cb h | client c ch h => exact h.fb
  | cancel ctx => exact fb_cancelCtx ..

theorem fb_runMon_top {W : World} {s s' : State} {ch : Nat} (hm : s.mon = .top) (hctl : s.monCtl = [])
    (h : runMon W s ch = some s') : FB s s' := by
  rcases runMon_top hm h with ⟨_, rfl⟩ | ⟨i, hi, rfl⟩
  · exact .of_eq rfl rfl rfl (.inr rfl)
  · have hmem : i ∈ readyIns s := List.mem_of_getElem? hi
    cases i with
    | ctx => exact .of_eq rfl rfl rfl (.inr rfl)
    | ctl c tok =>
      exfalso
      simp only [readyIns, hctl, List.append_nil, List.mem_append, List.mem_filterMap] at hmem
      rcases hmem with hmem | ⟨p, _, hp⟩
      · split at hmem <;> simp at hmem
      · split at hp <;> simp at hp
    | msg c m => exact fb_monTake_msg s c m

def QB (o : Obs) (l : List Obs) : Prop :=
  match o with
  | .verify _ _ _ => Called l
  | _ => True

theorem QB_of_clientObs (o : Obs) (h : clientObs o = true) (l : List Obs) : QB o l := by
  cases o <;> simp [clientObs] at h <;> simp [QB]

structure Quiet (s : State) : Prop where
  skip : s.skipVerify = true
  ctl : s.monCtl = []
  cl : ∀ p ∈ s.clients, notCtl p.2
  mon : monNoEn s.mon = true

structure InvB (s : State) : Prop where
  quiet : Called s.log ∨ Quiet s
  log : AllSuffix QB s.log

theorem InvB.init (P : Params) (hd : P.delay = true) (sl : Slots) (w : List Bool) : InvB (initState P sl w) :=
  ⟨.inr ⟨by simp [initState, Facts.initialSkipVerify, hd], rfl, by simp [initState], rfl⟩, by simp [initState]⟩

theorem InvB.frame {s s' : State} (hf : Frame clientObs s s') (hb : Called s.log ∨ FB s s') (hi : InvB s) : InvB s' := by
  obtain ⟨new, hlog, hnew⟩ := hf.log
  refine ⟨?_, ?_⟩
  · rcases hi.quiet with hc | hq
    · exact .inl (hlog ▸ hc.grow)
    · rcases hb with hc | hb
      · exact .inl (hlog ▸ hc.grow)
      rcases hb.keep with hc | ⟨a, b, m⟩
      · exact .inl hc
      · refine .inr ⟨hf.skip ▸ hq.skip, a ▸ hq.ctl, b hq.cl, ?_⟩
        rcases m with m | m
        · exact m ▸ hq.mon
        · exact m
  · rw [hlog]
    exact AllSuffix.append_all QB_of_clientObs hnew hi.log

theorem InvB.of_eff {s s' : State} {vw : Version} {sl : Slots} {sk : Bool} {m : MonPc} {lg : List Obs}
    (eff : MonEff s s' vw sl sk m lg) (hi : InvB s) (hgrow : ∃ new, lg = new ++ s.log)
    (hq : Quiet s → sk = true ∧ monNoEn m = true) (hl : AllSuffix QB lg) : InvB s' := by
  refine ⟨?_, eff.log ▸ hl⟩
  obtain ⟨new, hnew⟩ := hgrow
  rcases hi.quiet with hc | hqs
  · exact .inl (eff.log ▸ hnew ▸ hc.grow)
  · exact .inr ⟨eff.skip ▸ (hq hqs).1, eff.monCtl ▸ hqs.ctl, eff.cl notCtl (fun _ => trivial) hqs.cl,
      eff.mon ▸ (hq hqs).2⟩

theorem InvB.called_of_mon {s : State} (hi : InvB s) (hm : monNoEn s.mon = false) : Called s.log := by
  rcases hi.quiet with hc | hq
  · exact hc
  · rw [hq.mon] at hm; cases hm

theorem InvB.next {W : World} {s s' : State} {l : Label} (hi : InvB s) (h : step W s l = some s') : InvB s' := by
  rcases label_cases l with hl | ⟨ch, rfl⟩
  · exact hi.frame ((Step.of_step h).frame hl) (.inr ((Step.of_step h).fb hl))
  have hlog := hi.log
  by_cases hm : s.mon = .top
  · exact hi.frame (frame_runMon_top hm h) (hi.quiet.imp id fun hq => fb_runMon_top hm hq.ctl h)
  have noq : monNoEn s.mon = false → ∀ {p : Prop}, Quiet s → p := fun h _ hq => by rw [hq.mon] at h; cases h
  cases (MonStep.of_run h).body hm with
  | gotValue src v reply hm eff =>
    refine InvB.of_eff eff hi ⟨[_], rfl⟩ (fun hq => ⟨hq.skip, ?_⟩) ⟨trivial, hlog⟩
    rw [hq.skip]; split <;> rfl
  | verifyUpd sl reply hm eff | verifyEnable c tok hm eff =>
    have hc := hi.called_of_mon (by rw [hm]; rfl)
    exact InvB.of_eff eff hi ⟨[_], rfl⟩ (noq (by rw [hm]; rfl)) ⟨hc, hlog⟩
  | submitErr k new reply hm o ho eff =>
    refine InvB.of_eff eff hi ⟨[_, _], rfl⟩ (fun hq => ⟨hq.skip, ?_⟩) ?_
    · cases reply <;> rfl
    · rcases ho with rfl | rfl <;> exact ⟨trivial, trivial, hlog⟩
  | replyErr k c hm new hn eff =>
    refine InvB.of_eff eff hi ⟨new ++ [.replied c (errRes k)], by simp⟩ (fun hq => ⟨hq.skip, rfl⟩) ?_
    exact AllSuffix.append_all QB_of_clientObs hn ⟨trivial, hlog⟩
  | store sl reply hm eff | exit hm eff =>
    exact InvB.of_eff eff hi ⟨[_], rfl⟩ (fun hq => ⟨hq.skip, rfl⟩) ⟨trivial, hlog⟩
  | events old reply hm eff =>
    refine InvB.of_eff eff hi ⟨[], rfl⟩ (fun hq => ⟨hq.skip, ?_⟩) hlog
    cases reply <;> rfl
  | replyOk old c hm new hn eff =>
    refine InvB.of_eff eff hi ⟨new ++ [.replied c .okNil], by simp⟩ (fun hq => ⟨hq.skip, rfl⟩) ?_
    exact AllSuffix.append_all QB_of_clientObs hn ⟨trivial, hlog⟩
  | submitNew old hm o ho eff | submitSrcErr e hm o ho eff =>
    refine InvB.of_eff eff hi ⟨[_], rfl⟩ (fun hq => ⟨hq.skip, rfl⟩) ?_
    rcases ho with rfl | rfl <;> exact ⟨trivial, hlog⟩
  | gotSrcErr e hm eff =>
    refine InvB.of_eff eff hi ?_ (fun hq => ⟨hq.skip, ?_⟩) ?_
    · split
      · exact ⟨[_], rfl⟩
      · exact ⟨[], rfl⟩
    · split <;> rfl
    · split
      · exact ⟨trivial, hlog⟩
      · exact hlog
  | gotDone src hm m hm' eff =>
    refine InvB.of_eff eff hi ⟨[], rfl⟩ (fun hq => ⟨hq.skip, ?_⟩) hlog
    rcases hm' with rfl | rfl <;> rfl
  | gotEnable c tok hm eff => exact InvB.of_eff eff hi ⟨[], rfl⟩ (noq (by rw [hm]; rfl)) hlog
  | enableReply c tok ok noop hm new hn eff =>
    refine InvB.of_eff eff hi ?_ (noq (by rw [hm]; rfl)) (AllSuffix.append_all QB_of_clientObs hn ?_)
    · split
      · exact ⟨new, rfl⟩
      · exact ⟨new ++ [.enabled ok s.view], by simp⟩
    · split
      · exact hlog
      · exact ⟨trivial, hlog⟩

theorem InvB.reachable {W : World} {P : Params} {sl : Slots} {w : List Bool} {s : State}
    (hr : Reachable W P sl w s) (hd : P.delay = true) : InvB s :=
  reachable_induction (InvB.init P hd sl w) (fun _ _ _ hi h => hi.next h) hr

theorem before_of_split {log l1 l2 : List Obs} {a b : Obs} (h : log = l1 ++ b :: l2) (ha : a ∈ l2) :
    Before log.reverse a b := by
  obtain ⟨m1, m2, e⟩ := List.append_of_mem ha
  refine ⟨m2.reverse, m1.reverse, l1.reverse, ?_⟩
  rw [h, e]
  simp

end Dials.Runtime
