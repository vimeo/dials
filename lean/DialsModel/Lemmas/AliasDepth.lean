/-
Lemmas for the depth / sibling theorems of Props/C14.lean: one reverse pass of the alias mangler
(`unmangleLayer … (aliasMangler tags)`) over a layer of fields

* is computed block by block (`unmangleLayer_append`, `unmangleLayer_alias_append`): the outcome of a block of fields
  depends on the values of its own outputs only;
* leaves the values of fields without alias tags and without a struct below them alone (`unmangleLayer_plain`);
* on an aliased leaf is `aliasUnmangle` on the two values (`unmangleLayer_alias_leaf`);
* commutes with nesting below struct-typed fields without alias tags (`nest_lift`), at fuel `2` per level: one for
  `unmangleLayer`, one for `recurseVal`.
-/
import DialsModel.Lemmas.TfChain
import DialsModel.Lemmas.EnvAlias

namespace Dials.Tf

def seqOut {α} (a b : Outcome (List α)) : Outcome (List α) :=
  match a with
  | .ok r1 =>
    match b with
    | .ok r2 => .ok (r1 ++ r2)
    | .err c => .err c
    | .panic c => .panic c
  | .err c => .err c
  | .panic c => .panic c

def mapOut {α β} (g : α → β) : Outcome α → Outcome β
  | .ok a => .ok (g a)
  | .err c => .err c
  | .panic c => .panic c

@[simp] theorem mapOut_ok {α β} (g : α → β) (a : α) : mapOut g (.ok a) = .ok (g a) := rfl
@[simp] theorem mapOut_err {α β} (g : α → β) (c : String) : mapOut g (.err c : Outcome α) = .err c := rfl
@[simp] theorem mapOut_panic {α β} (g : α → β) (c : String) : mapOut g (.panic c : Outcome α) = .panic c := rfl

theorem mapOut_mapOut {α β γ} (g : β → γ) (f : α → β) (x : Outcome α) :
    mapOut g (mapOut f x) = mapOut (fun a => g (f a)) x := by
  cases x <;> rfl

theorem mapOut_id {α} (x : Outcome α) : mapOut (fun a => a) x = x := by
  cases x <;> rfl

theorem mapM'_append_seq {α β} (f : α → Outcome β) : ∀ (xs ys : List α),
    mapM' f (xs ++ ys) = seqOut (mapM' f xs) (mapM' f ys)
  | [], ys => by
    cases h : mapM' f ys <;> simp [mapM', seqOut, h]
  | x :: xs, ys => by
    simp only [List.cons_append, mapM', mapM'_append_seq f xs ys]
    cases f x with
    | ok b =>
      cases mapM' f xs with
      | ok bs => cases mapM' f ys <;> rfl
      | _ => rfl
    | _ => rfl

theorem mapM'_ok_of_each {α β} (f : α → Outcome β) : ∀ (xs : List α), (∀ x ∈ xs, ∃ b, f x = .ok b) →
    ∃ bs, mapM' f xs = .ok bs
  | [], _ => ⟨[], rfl⟩
  | x :: xs, h => by
    obtain ⟨b, hb⟩ := h x (by simp)
    obtain ⟨bs, hbs⟩ := mapM'_ok_of_each f xs (fun y hy => h y (by simp [hy]))
    exact ⟨b :: bs, by simp [mapM', hb, hbs]⟩

theorem splitCounts_length {α} : ∀ (c : List Nat) (v : List α), (splitCounts c v).length = c.length
  | [], _ => rfl
  | n :: c, v => by simp [splitCounts, splitCounts_length c]

theorem splitCounts_append {α} : ∀ (c1 c2 : List Nat) (v1 v2 : List α), v1.length = c1.sum →
    splitCounts (c1 ++ c2) (v1 ++ v2) = splitCounts c1 v1 ++ splitCounts c2 v2
  | [], c2, v1, v2, h => by
    have : v1 = [] := by simpa using h
    subst this
    simp [splitCounts]
  | n :: c1, c2, v1, v2, h => by
    simp only [List.sum_cons] at h
    have hn : n ≤ v1.length := by omega
    simp only [List.cons_append, splitCounts]
    rw [List.take_append_of_le_length hn, List.drop_append_of_le_length hn,
      splitCounts_append c1 c2 (v1.drop n) v2 (by simp; omega)]

theorem unmangleLayer_append (fuel : Nat) (m : Mangler) (A B : List FT) (oA oB : List (List FT))
    (va vb : List Val)
    (hA : mapM' (fun (f : FT) => m.mangle f.1 f.2) A = .ok oA)
    (hB : mapM' (fun (f : FT) => m.mangle f.1 f.2) B = .ok oB)
    (hl : va.length = (oA.map List.length).sum) :
    unmangleLayer (fuel + 1) m (A ++ B) (va ++ vb) =
      seqOut (unmangleLayer (fuel + 1) m A va) (unmangleLayer (fuel + 1) m B vb) := by
  have hAB : mapM' (fun (f : FT) => m.mangle f.1 f.2) (A ++ B) = .ok (oA ++ oB) := by
    rw [mapM'_append_seq, hA, hB]; rfl
  have h1 : oA.length = A.length := mapM'_length hA
  rw [unmangleLayer_succ, unmangleLayer_succ, unmangleLayer_succ, hAB, hA, hB]
  simp only [List.map_append]
  rw [splitCounts_append _ _ _ _ hl,
    List.zip_append (by simp [splitCounts_length]),
    List.zip_append (by simp [splitCounts_length, h1]), mapM'_append_seq]

def NoAliasTag (tags : List String) (h : Hdr) : Prop :=
  ∀ tag ∈ tags, tagGet h.tags (tag ++ "alias") = none

theorem isAliased_eq_false_iff (tags : List String) (h : Hdr) : isAliased tags h = false ↔ NoAliasTag tags h := by
  simp only [isAliased, NoAliasTag, Bool.not_eq_false', List.isEmpty_iff, List.filterMap_eq_nil_iff,
    Option.map_eq_none_iff]

theorem isAliased_of_noAliasTag {tags : List String} {h : Hdr} (hn : NoAliasTag tags h) :
    isAliased tags h = false := (isAliased_eq_false_iff tags h).2 hn

theorem isAliased_of_tag {tags : List String} {h : Hdr} {tag a : String}
    (ht : tag ∈ tags) (ha : tagGet h.tags (tag ++ "alias") = some a) : isAliased tags h = true := by
  show (!(aliasFound tags h).isEmpty) = true
  rw [aliasFound_nonempty ht ha]
  rfl

theorem aliasMangle_of_not_aliased {tags : List String} {h : Hdr} (hn : isAliased tags h = false) (t : Ty) :
    aliasMangle tags h t = .ok [(h, t)] := by
  rcases aliasMangle_shape tags h t with ⟨_, hs⟩ | ⟨ha, _⟩
  · exact hs
  · rw [hn] at ha; cases ha

theorem aliasMangle_of_noAliasTag {tags : List String} {h : Hdr} (hn : NoAliasTag tags h) (t : Ty) :
    aliasMangle tags h t = .ok [(h, t)] :=
  aliasMangle_of_not_aliased (isAliased_of_noAliasTag hn) t

def aliasWidth (tags : List String) (f : FT) : Nat := if isAliased tags f.1 then 2 else 1

theorem aliasMangle_width (tags : List String) (f : FT) :
    ∃ outs, aliasMangle tags f.1 f.2 = .ok outs ∧ outs.length = aliasWidth tags f ∧ ∀ o ∈ outs, o.2 = f.2 := by
  rcases aliasMangle_shape tags f.1 f.2 with ⟨ha, hs⟩ | ⟨ha, h1, h2, hs⟩
  · exact ⟨_, hs, by simp [aliasWidth, ha], by simp⟩
  · refine ⟨_, hs, by simp [aliasWidth, ha], ?_⟩
    intro o ho
    simp only [List.mem_cons, List.not_mem_nil, or_false] at ho
    rcases ho with rfl | rfl <;> rfl

theorem aliasMangle_layer (tags : List String) : ∀ (fs : List FT),
    ∃ outss, mapM' (fun (f : FT) => (aliasMangler tags).mangle f.1 f.2) fs = .ok outss ∧
      outss.map List.length = fs.map (aliasWidth tags)
  | [] => ⟨[], rfl, rfl⟩
  | f :: fs => by
    obtain ⟨outs, ho, hl, _⟩ := aliasMangle_width tags f
    obtain ⟨outss, hos, hls⟩ := aliasMangle_layer tags fs
    refine ⟨outs :: outss, ?_, by simp [hl, hls]⟩
    simp only [mapM', hos]
    simp only [aliasMangler, ho]

theorem unmangleLayer_alias_append (tags : List String) (fuel : Nat) (A B : List FT) (va vb : List Val)
    (hl : va.length = (A.map (aliasWidth tags)).sum) :
    unmangleLayer (fuel + 1) (aliasMangler tags) (A ++ B) (va ++ vb) =
      seqOut (unmangleLayer (fuel + 1) (aliasMangler tags) A va)
        (unmangleLayer (fuel + 1) (aliasMangler tags) B vb) := by
  obtain ⟨oA, hA, hlA⟩ := aliasMangle_layer tags A
  obtain ⟨oB, hB, _⟩ := aliasMangle_layer tags B
  exact unmangleLayer_append fuel _ A B oA oB va vb hA hB (by rw [hlA]; exact hl)

/-- `hT`: `recurseType` is evaluated for the field handed to `Unmangle`; it can only fail for lack of fuel -/
theorem unmangleLayer_noalias_single (tags : List String) (k : Nat) (H : Hdr) (T : Ty) (v : Val)
    (hn : NoAliasTag tags H) (hT : ∃ o', recurseType k (aliasMangler tags) (H, T) = .ok o') :
    unmangleLayer (k + 1) (aliasMangler tags) [(H, T)] [v] =
      mapOut (fun w => [w]) (recurseVal k (aliasMangler tags) (H, T) v) := by
  have hm : (aliasMangler tags).mangle H T = .ok [(H, T)] := aliasMangle_of_noAliasTag hn T
  obtain ⟨o', h2⟩ := hT
  rw [unmangleLayer_succ]
  simp only [mapM', hm, List.map_cons, List.map_nil, List.length_cons, List.length_nil, splitCounts,
    List.zip_cons_cons, List.zip_nil_right, unmBody, List.take, h2]
  cases recurseVal k (aliasMangler tags) (H, T) v <;> rfl

/-- `fp`, `fa` are arbitrary: `aliasUnmangle` does not look at the fields -/
theorem unmangleLayer_alias_leaf (tags : List String) (k : Nat) (h : Hdr) (t : Ty) (vp va : Val)
    (hal : isAliased tags h = true) (hst : structish t = none) (fp fa : FT) :
    unmangleLayer (k + 2) (aliasMangler tags) [(h, t)] [vp, va] =
      mapOut (fun c => [c]) (aliasUnmangle h t [(fp, vp), (fa, va)]) := by
  rcases aliasMangle_shape tags h t with ⟨ha, _⟩ | ⟨_, h1, h2, hs⟩
  · rw [hal] at ha; cases ha
  have hm : (aliasMangler tags).mangle h t = .ok [(h1, t), (h2, t)] := hs
  have r1 : ∀ (hh : Hdr) (v : Val), recurseVal (k + 1) (aliasMangler tags) (hh, t) v = .ok v :=
    fun hh v => recurseVal_id k _ (hh, t) v (Or.inr hst)
  have r2 : ∀ (hh : Hdr), recurseType (k + 1) (aliasMangler tags) (hh, t) = .ok (hh, t) :=
    fun hh => recurseType_id k _ (hh, t) (Or.inr hst)
  rw [unmangleLayer_succ]
  simp only [mapM', hm, List.map_cons, List.map_nil, List.length_cons, List.length_nil, splitCounts,
    List.zip_cons_cons, List.zip_nil_right, unmBody, List.take, r1, r2, bne_self_eq_false, Bool.false_eq_true, if_false]
  rfl

def Plain (tags : List String) (fs : List FT) : Prop :=
  ∀ f ∈ fs, NoAliasTag tags f.1 ∧ structish f.2 = none

theorem Plain.width {tags : List String} : ∀ {fs : List FT}, Plain tags fs →
    (fs.map (aliasWidth tags)).sum = fs.length
  | [], _ => rfl
  | f :: fs, h => by
    have h1 := isAliased_of_noAliasTag (h f (by simp)).1
    have h2 := Plain.width (tags := tags) (fs := fs) (fun g hg => h g (by simp [hg]))
    simp [aliasWidth, h1, h2]; omega

theorem unmangleLayer_plain (tags : List String) (k : Nat) : ∀ (fs : List FT) (vs : List Val),
    Plain tags fs → vs.length = fs.length →
    unmangleLayer (k + 2) (aliasMangler tags) fs vs = .ok vs
  | [], [], _, _ => by
    rw [unmangleLayer_succ]; simp [mapM', splitCounts]
  | [], _ :: _, _, h => by simp at h
  | _ :: _, [], _, h => by simp at h
  | f :: fs, v :: vs, hp, hl => by
    obtain ⟨H, T⟩ := f
    have hf := hp (H, T) (by simp)
    have ih := unmangleLayer_plain tags k fs vs (fun g hg => hp g (by simp [hg])) (by simpa using hl)
    have := unmangleLayer_alias_append tags (k + 1) [(H, T)] fs [v] vs
      (by simp [aliasWidth, isAliased_of_noAliasTag hf.1])
    simp only [List.singleton_append] at this
    rw [this, ih, unmangleLayer_noalias_single tags (k + 1) H T v hf.1 ⟨_, recurseType_id k _ (H, T) (Or.inr hf.2)⟩,
      recurseVal_id k _ (H, T) v (Or.inr hf.2)]
    rfl

theorem unmangleLayer_frame (tags : List String) (k : Nat) (pre X post : List FT) (vpre gx vpost : List Val)
    (hpre : Plain tags pre) (hpost : Plain tags post)
    (hlpre : vpre.length = pre.length) (hlpost : vpost.length = post.length)
    (hlx : gx.length = (X.map (aliasWidth tags)).sum) :
    unmangleLayer (k + 2) (aliasMangler tags) (pre ++ X ++ post) (vpre ++ gx ++ vpost) =
      mapOut (fun r => vpre ++ r ++ vpost) (unmangleLayer (k + 2) (aliasMangler tags) X gx) := by
  rw [List.append_assoc, List.append_assoc,
    unmangleLayer_alias_append tags (k + 1) pre (X ++ post) vpre (gx ++ vpost) (by rw [hpre.width, hlpre]),
    unmangleLayer_alias_append tags (k + 1) X post gx vpost hlx,
    unmangleLayer_plain tags k pre vpre hpre hlpre, unmangleLayer_plain tags k post vpost hpost hlpost]
  cases unmangleLayer (k + 1 + 1) (aliasMangler tags) X gx <;> simp [seqOut]

/-- `∀ hh`: the copies `aliasMangle` makes of a field carry other headers, the same type -/
theorem mangleLayer_alias_ok (tags : List String) (k : Nat) (fs : List FT)
    (h : ∀ f ∈ fs, ∀ hh : Hdr, ∃ o', recurseType k (aliasMangler tags) (hh, f.2) = .ok o') :
    ∃ r, mangleLayer (k + 1) (aliasMangler tags) fs = .ok r := by
  obtain ⟨groups, hg⟩ := mapM'_ok_of_each (fun (f : FT) =>
      match (aliasMangler tags).mangle f.1 f.2 with
      | .ok outs => mapM' (recurseType k (aliasMangler tags)) outs
      | .err c => .err c
      | .panic c => .panic c) fs (by
    intro f hf
    obtain ⟨outs, ho, _, hty⟩ := aliasMangle_width tags f
    have ho' : (aliasMangler tags).mangle f.1 f.2 = .ok outs := ho
    simp only [ho']
    apply mapM'_ok_of_each
    intro o hoo
    have := h f hf o.1
    rw [← hty o hoo] at this
    exact this)
  refine ⟨groups.flatten, ?_⟩
  simp only [mangleLayer]
  split
  · rename_i g' hg'
    exact congrArg (fun g => Outcome.ok (List.flatten g)) (Outcome.ok.inj (hg'.symm.trans hg))
  · rename_i c hc
    exact absurd (hc.symm.trans hg) (by simp)
  · rename_i c hc
    exact absurd (hc.symm.trans hg) (by simp)

theorem mangleLayer_plain_ok (tags : List String) (k : Nat) (fs : List FT)
    (h : ∀ f ∈ fs, structish f.2 = none) : ∃ r, mangleLayer (k + 2) (aliasMangler tags) fs = .ok r :=
  mangleLayer_alias_ok tags (k + 1) fs (fun f hf hh => ⟨_, recurseType_id k _ (hh, f.2) (Or.inr (h f hf))⟩)

theorem tySize_pos (t : Ty) : 0 < tySize t := by
  cases t <;> simp [tySize]

theorem fieldsSize_lt_of_structish {t : Ty} {ifs : Fields} {w : Ty → Ty} (h : structish t = some (ifs, w)) :
    fieldsSize ifs + 1 ≤ tySize t := by
  rcases structish_some h with rfl | rfl | rfl | ⟨n, rfl⟩ <;> simp [tySize]

/-- twice the size: a struct level costs one step of `mangleLayer` and one of `recurseType` -/
theorem alias_forward_total (tags : List String) : ∀ (fuel : Nat),
    (∀ fs : List FT, 1 ≤ fuel → (∀ f ∈ fs, 2 * tySize f.2 + 1 ≤ fuel) →
      ∃ r, mangleLayer fuel (aliasMangler tags) fs = .ok r) ∧
    (∀ (hh : Hdr) (t : Ty), 1 ≤ fuel → 2 * tySize t ≤ fuel →
      ∃ o', recurseType fuel (aliasMangler tags) (hh, t) = .ok o')
  | 0 => ⟨fun _ h _ => by omega, fun _ _ h _ => by omega⟩
  | fuel + 1 => by
    obtain ⟨ihP, ihQ⟩ := alias_forward_total tags fuel
    constructor
    · intro fs _ hsz
      apply mangleLayer_alias_ok tags fuel fs
      intro f hf hh
      have h1 := hsz f hf
      have h2 := tySize_pos f.2
      exact ihQ hh f.2 (by omega) (by omega)
    · intro hh t _ hsz
      have hrec : (aliasMangler tags).recurse = true := rfl
      cases hs : structish t with
      | none => exact ⟨_, recurseType_id fuel _ (hh, t) (Or.inr hs)⟩
      | some p =>
        obtain ⟨ifs, w⟩ := p
        have h1 := fieldsSize_lt_of_structish hs
        obtain ⟨r, hr⟩ := ihP ifs.toList (by omega) (fun g hg => by
          have := tySize_lt_of_mem_toList ifs g hg
          omega)
        exact ⟨(hh, w (.struct (Fields.ofList r))),
          by simp only [recurseType, hrec, hs, hr, Bool.not_true, Bool.false_eq_true, if_false]⟩

theorem mangleLayer_alias_total (tags : List String) (fs : List FT) (fuel : Nat) (h1 : 1 ≤ fuel)
    (hsz : ∀ f ∈ fs, 2 * tySize f.2 + 1 ≤ fuel) : ∃ r, mangleLayer fuel (aliasMangler tags) fs = .ok r :=
  (alias_forward_total tags fuel).1 fs h1 hsz

inductive Held where
  /-- `*struct`: what Pointerify makes of a nested struct -/
  | ptr
  /-- a struct held by value (the element structs of collections are not pointerified) -/
  | byValue
  | slice
  | array (n : Nat)
deriving Repr, DecidableEq

def Held.ty : Held → Fields → Ty
  | .ptr, fs => .ptr (.struct fs)
  | .byValue, fs => .struct fs
  | .slice, fs => .slice (.struct fs)
  | .array n, fs => .array n (.struct fs)

def Held.val : Held → Val → Val
  | .ptr, sv => .ptr sv
  | .byValue, sv => sv
  | .slice, sv => .list [sv]
  | .array _, sv => .list [sv]

theorem Held.structish_ty (w : Held) (fs : Fields) : ∃ wr, structish (w.ty fs) = some (fs, wr) := by
  cases w <;> exact ⟨_, rfl⟩

theorem recurseVal_wrap (tags : List String) (j : Nat) (H : Hdr) (w : Held) (I : List FT) (vs : List Val) :
    recurseVal (j + 1) (aliasMangler tags) (H, w.ty (Fields.ofList I)) (w.val (.struct vs)) =
      mapOut (fun r => w.val (.struct r)) (unmangleLayer j (aliasMangler tags) I vs) := by
  have hrec : (aliasMangler tags).recurse = true := rfl
  cases w <;>
    simp only [recurseVal, Held.ty, Held.val, structish, hrec, toList_ofList, mapM',
      Bool.not_true, Bool.false_eq_true, if_false] <;>
    cases unmangleLayer j (aliasMangler tags) I vs <;> rfl

theorem recurseVal_wrap_nil (tags : List String) (j : Nat) (H : Hdr) (w : Held) (fs : Fields)
    (hw : w = .ptr ∨ w = .slice) :
    recurseVal (j + 1) (aliasMangler tags) (H, w.ty fs) .nilv = .ok .nilv := by
  have hrec : (aliasMangler tags).recurse = true := rfl
  rcases hw with rfl | rfl <;> simp [recurseVal, Held.ty, structish, hrec]

theorem recurseType_wrap (tags : List String) (j : Nat) (H : Hdr) (w : Held) (I : List FT) :
    recurseType (j + 1) (aliasMangler tags) (H, w.ty (Fields.ofList I)) =
      mapOut (fun r => (H, w.ty (Fields.ofList r))) (mangleLayer j (aliasMangler tags) I) := by
  have hrec : (aliasMangler tags).recurse = true := rfl
  cases w <;>
    simp only [recurseType, Held.ty, structish, hrec, toList_ofList,
      Bool.not_true, Bool.false_eq_true, if_false] <;>
    cases mangleLayer j (aliasMangler tags) I <;> rfl

theorem recurseType_wrap_ok (tags : List String) (j : Nat) (H : Hdr) (w : Held) (I : List FT)
    (h : ∃ r, mangleLayer j (aliasMangler tags) I = .ok r) :
    ∃ o', recurseType (j + 1) (aliasMangler tags) (H, w.ty (Fields.ofList I)) = .ok o' := by
  obtain ⟨r, hr⟩ := h
  exact ⟨_, by rw [recurseType_wrap, hr]; rfl⟩

theorem mapM'_structs (g : List Val → Outcome (List Val)) (inner : Val → Outcome Val)
    (hin : ∀ vs, inner (.struct vs) = mapOut Val.struct (g vs)) : ∀ (vss : List (List Val)),
    mapM' inner (vss.map Val.struct) = mapOut (List.map Val.struct) (mapM' g vss)
  | [] => rfl
  | vs :: vss => by
    simp only [List.map_cons, mapM', hin vs, mapM'_structs g inner hin vss]
    cases g vs <;> cases mapM' g vss <;> rfl

theorem recurseVal_collection (tags : List String) (j : Nat) (H : Hdr) (w : Held) (I : List FT)
    (vss : List (List Val)) (hw : w = .slice ∨ ∃ n, w = .array n) :
    recurseVal (j + 1) (aliasMangler tags) (H, w.ty (Fields.ofList I)) (.list (vss.map Val.struct)) =
      mapOut (fun rs => .list (rs.map Val.struct)) (mapM' (unmangleLayer j (aliasMangler tags) I) vss) := by
  have hrec : (aliasMangler tags).recurse = true := rfl
  rcases hw with rfl | ⟨n, rfl⟩ <;>
  · simp only [recurseVal, Held.ty, structish, hrec, toList_ofList,
      Bool.not_true, Bool.false_eq_true, if_false]
    rw [mapM'_structs (unmangleLayer j (aliasMangler tags) I) _ (fun vs => by
      cases h : unmangleLayer j (aliasMangler tags) I vs <;> simp [h])]
    cases mapM' (unmangleLayer j (aliasMangler tags) I) vss <;> rfl

structure Level where
  pre : List FT
  hdr : Hdr
  held : Held
  post : List FT
  vpre : List Val
  vpost : List Val

def Level.WF (tags : List String) (L : Level) : Prop :=
  Plain tags L.pre ∧ Plain tags L.post ∧ NoAliasTag tags L.hdr ∧
    L.vpre.length = L.pre.length ∧ L.vpost.length = L.post.length

theorem unmangleLayer_level (tags : List String) (j : Nat) (L : Level) (hwf : L.WF tags) (T : Ty) (v : Val)
    (hT : ∃ o', recurseType (j + 1) (aliasMangler tags) (L.hdr, T) = .ok o') :
    unmangleLayer (j + 2) (aliasMangler tags) (L.pre ++ [(L.hdr, T)] ++ L.post) (L.vpre ++ [v] ++ L.vpost) =
      mapOut (fun w => L.vpre ++ [w] ++ L.vpost) (recurseVal (j + 1) (aliasMangler tags) (L.hdr, T) v) := by
  obtain ⟨hpre, hpost, hn, hlpre, hlpost⟩ := hwf
  rw [unmangleLayer_frame tags j L.pre _ L.post L.vpre _ L.vpost hpre hpost hlpre hlpost
    (by simp [aliasWidth, isAliased_of_noAliasTag hn]), unmangleLayer_noalias_single tags (j + 1) _ _ _ hn hT, mapOut_mapOut]

def nestLayer : List Level → List FT → List FT
  | [], I => I
  | L :: Ls, I => L.pre ++ [(L.hdr, L.held.ty (Fields.ofList (nestLayer Ls I)))] ++ L.post

def nestVals : List Level → List Val → List Val
  | [], vs => vs
  | L :: Ls, vs => L.vpre ++ [L.held.val (.struct (nestVals Ls vs))] ++ L.vpost

theorem nestLayer_append (Ls Ls' : List Level) (I : List FT) :
    nestLayer (Ls ++ Ls') I = nestLayer Ls (nestLayer Ls' I) := by
  induction Ls with
  | nil => rfl
  | cons L Ls ih => simp only [List.cons_append, nestLayer, ih]

theorem mangleLayer_level_ok (tags : List String) (j : Nat) (L : Level) (hwf : L.WF tags) (below : List FT)
    (h : ∃ r, mangleLayer j (aliasMangler tags) below = .ok r) :
    ∃ r, mangleLayer (j + 2) (aliasMangler tags)
      (L.pre ++ [(L.hdr, L.held.ty (Fields.ofList below))] ++ L.post) = .ok r := by
  obtain ⟨hpre, hpost, _, _, _⟩ := hwf
  apply mangleLayer_alias_ok tags (j + 1)
  intro f hf hh
  simp only [List.mem_append, List.mem_singleton] at hf
  rcases hf with (hf | rfl) | hf
  · exact ⟨_, recurseType_id j _ (hh, f.2) (Or.inr (hpre f hf).2)⟩
  · exact recurseType_wrap_ok tags j hh L.held below h
  · exact ⟨_, recurseType_id j _ (hh, f.2) (Or.inr (hpost f hf).2)⟩

theorem mangleLayer_nest_ok (tags : List String) (I : List FT) (b : Nat)
    (hM : ∀ k, ∃ r, mangleLayer (k + b) (aliasMangler tags) I = .ok r) :
    ∀ (Ls : List Level), (∀ L ∈ Ls, L.WF tags) → ∀ fuel, 2 * Ls.length + b ≤ fuel →
      ∃ r, mangleLayer fuel (aliasMangler tags) (nestLayer Ls I) = .ok r
  | [], _, fuel, hf => by
    obtain ⟨k, rfl⟩ : ∃ k, fuel = k + b := ⟨fuel - b, by simp at hf; omega⟩
    exact hM k
  | L :: Ls, hwf, fuel, hf => by
    obtain ⟨j, rfl⟩ : ∃ j, fuel = j + 2 := ⟨fuel - 2, by simp at hf; omega⟩
    exact mangleLayer_level_ok tags j L (hwf L (by simp)) (nestLayer Ls I)
      (mangleLayer_nest_ok tags I b hM Ls (fun L' h' => hwf L' (by simp [h'])) j (by simp at hf; omega))

theorem nest_lift (tags : List String) (I : List FT) (vs : List Val) (R : Outcome (List Val)) (b : Nat)
    (hI : ∀ k, unmangleLayer (k + b) (aliasMangler tags) I vs = R)
    (hM : ∀ k, ∃ r, mangleLayer (k + b) (aliasMangler tags) I = .ok r) :
    ∀ (Ls : List Level), (∀ L ∈ Ls, L.WF tags) → ∀ fuel, 2 * Ls.length + b ≤ fuel →
      unmangleLayer fuel (aliasMangler tags) (nestLayer Ls I) (nestVals Ls vs) = mapOut (nestVals Ls) R
  | [], _, fuel, hf => by
    obtain ⟨k, rfl⟩ : ∃ k, fuel = k + b := ⟨fuel - b, by simp at hf; omega⟩
    exact (hI k).trans (mapOut_id R).symm
  | L :: Ls, hwf, fuel, hf => by
    obtain ⟨j, rfl⟩ : ∃ j, fuel = j + 2 := ⟨fuel - 2, by simp at hf; omega⟩
    have hj : 2 * Ls.length + b ≤ j := by simp at hf; omega
    have hLs := fun L' h' => hwf L' (List.mem_cons_of_mem _ h')
    simp only [nestLayer, nestVals]
    rw [unmangleLayer_level tags j L (hwf L (by simp)) _ _ (recurseType_wrap_ok tags j L.hdr L.held _
        (mangleLayer_nest_ok tags I b hM Ls hLs j hj)),
      recurseVal_wrap, nest_lift tags I vs R b hI hM Ls hLs j hj, mapOut_mapOut, mapOut_mapOut]

theorem alias_patterns_of_eq {β : Type} (g : Val → β) (h : Hdr) (t : Ty) (fp fa : FT) (vp va : Val)
    (X : Outcome β) (hX : X = mapOut g (aliasUnmangle h t [(fp, vp), (fa, va)])) :
    (isUnsetAt t vp = false → isUnsetAt t va = true → X = .ok (g vp)) ∧
    (isUnsetAt t vp = true → isUnsetAt t va = false → X = .ok (g va)) ∧
    (isUnsetAt t vp = true → isUnsetAt t va = true → X = .ok (g vp)) ∧
    (isUnsetAt t vp = false → isUnsetAt t va = false →
      X = .err ("both alias and original set for field " ++ h.name)) := by
  subst hX
  refine ⟨?_, ?_, ?_, ?_⟩ <;> intro h1 h2 <;> simp [aliasUnmangle, h1, h2]

theorem unmangleLayer_alias_leaf_framed (tags : List String) (k : Nat) (pre post : List FT) (h : Hdr) (t : Ty)
    (vpre vpost : List Val) (vp va : Val) (fp fa : FT)
    (hpre : Plain tags pre) (hpost : Plain tags post)
    (hal : isAliased tags h = true) (hst : structish t = none)
    (hlpre : vpre.length = pre.length) (hlpost : vpost.length = post.length) :
    unmangleLayer (k + 2) (aliasMangler tags) (pre ++ [(h, t)] ++ post) (vpre ++ [vp, va] ++ vpost) =
      mapOut (fun c => vpre ++ [c] ++ vpost) (aliasUnmangle h t [(fp, vp), (fa, va)]) := by
  rw [unmangleLayer_frame tags k pre _ post vpre _ vpost hpre hpost hlpre hlpost
    (by simp [aliasWidth, hal]), unmangleLayer_alias_leaf tags k h t vp va hal hst fp fa, mapOut_mapOut]

theorem mangleLayer_alias_leaf_framed_ok (tags : List String) (k : Nat) (pre post : List FT) (h : Hdr) (t : Ty)
    (hpre : Plain tags pre) (hpost : Plain tags post) (hst : structish t = none) :
    ∃ r, mangleLayer (k + 2) (aliasMangler tags) (pre ++ [(h, t)] ++ post) = .ok r := by
  apply mangleLayer_plain_ok
  intro f hf
  simp only [List.mem_append, List.mem_singleton] at hf
  rcases hf with (hf | rfl) | hf
  · exact (hpre f hf).2
  · exact hst
  · exact (hpost f hf).2

theorem unmangleLayer_nil_nested (tags : List String) (Ls : List Level) (L : Level) (below : List FT) (b : Nat)
    (hLs : ∀ L' ∈ Ls, L'.WF tags) (hL : L.WF tags) (hw : L.held = .ptr ∨ L.held = .slice)
    (hM : ∀ k, ∃ r, mangleLayer (k + b) (aliasMangler tags) below = .ok r)
    (fuel : Nat) (hfuel : 2 * Ls.length + (b + 2) ≤ fuel) :
    unmangleLayer fuel (aliasMangler tags)
        (nestLayer Ls (L.pre ++ [(L.hdr, L.held.ty (Fields.ofList below))] ++ L.post))
        (nestVals Ls (L.vpre ++ [.nilv] ++ L.vpost)) =
      .ok (nestVals Ls (L.vpre ++ [.nilv] ++ L.vpost)) := by
  exact nest_lift tags (L.pre ++ [(L.hdr, L.held.ty (Fields.ofList below))] ++ L.post)
    (L.vpre ++ [.nilv] ++ L.vpost) (.ok (L.vpre ++ [.nilv] ++ L.vpost)) (b + 2)
    (fun k => by
      rw [← Nat.add_assoc, unmangleLayer_level tags (k + b) L hL _ _ (recurseType_wrap_ok tags (k + b) L.hdr L.held below (hM k)),
        recurseVal_wrap_nil tags (k + b) _ _ _ hw]
      rfl)
    (fun k => mangleLayer_level_ok tags (k + b) L hL below (hM k)) Ls hLs fuel hfuel

def nestTy : List Hdr → List FT → Ty
  | [], inner => .struct (Fields.ofList inner)
  | H :: Hs, inner => .struct (Fields.ofList [(H, .ptr (nestTy Hs inner))])

def nestVal : Nat → List Val → Val
  | 0, vs => .struct vs
  | n + 1, vs => .struct [.ptr (nestVal n vs)]

def ptrLevel (H : Hdr) : Level := { pre := [], hdr := H, held := .ptr, post := [], vpre := [], vpost := [] }

theorem ptrLevel_WF {tags : List String} {H : Hdr} (hn : NoAliasTag tags H) : (ptrLevel H).WF tags :=
  ⟨fun _ h => (by cases h), fun _ h => (by cases h), hn, rfl, rfl⟩

theorem nestLayer_ptrChain (inner : List FT) : ∀ (H0 : Hdr) (Hs : List Hdr),
    nestLayer ((H0 :: Hs).map ptrLevel) inner = [(H0, .ptr (nestTy Hs inner))]
  | H0, [] => rfl
  | H0, H1 :: Hs => by
    rw [List.map_cons, nestLayer, nestLayer_ptrChain inner H1 Hs]
    rfl

theorem nestVals_ptrChain (vs : List Val) : ∀ (H0 : Hdr) (Hs : List Hdr),
    nestVals ((H0 :: Hs).map ptrLevel) vs = [.ptr (nestVal Hs.length vs)]
  | H0, [] => rfl
  | H0, H1 :: Hs => by
    rw [List.map_cons, nestVals, nestVals_ptrChain vs H1 Hs]
    rfl

end Dials.Tf
