/-
Symbolic execution of the ez script (Model/Ez.lean) on the runtime model: the observable summary of
`ezRun`, the simp set that computes it, and the generic fact that every state the script passes
through is a reachable state of the runtime model (so that the theorems of C04–C09 apply to it).
-/
import DialsModel.Model.Ez
import DialsModel.Model.RuntimeSpec
import DialsModel.Lemmas.EzAttr

namespace Dials.Ez
open Dials Dials.Runtime

/-- nobody but ez's (returned) caller is talking to the monitor -/
def quiet (s : State) : Bool :=
  s.monCtl.isEmpty && s.cancelled.isEmpty &&
    (match s.clients with
     | [(0, .idle)] => true
     | _ => false)

/-- what the property talks about, extracted from the outcome of `ezRun` -/
structure Summary where
  err : Option EzErr
  view : Option Version                 -- the installed version when ez returns
  events : Option (Option Version)      -- content of the Events channel when ez returns
  skip : Option Bool                    -- is verification still switched off?
  verifies : List (Slots × Bool)        -- the Verify() calls: receiver, result
  globals : List Call                   -- OnNewConfig / OnWatchedError calls entered before ez returns
  later : List Call                     -- … and once the callback goroutine has worked off what is queued at return
  received : List Version               -- what ez itself took from Events()
  path : Option Nat                     -- the path handed to the file source
  slots : Option Slots                  -- the monitor's current source values
  idle : Option Bool                    -- the monitor is between two updates
  quiet : Option Bool
  room : Option Bool                    -- the callback queue has room
deriving DecidableEq, Repr

def summary (W : World) (o : Out) : Summary :=
  { err := o.err
    view := o.st.map (·.view)
    events := o.st.map (·.events)
    skip := o.st.map (·.skipVerify)
    verifies := (o.st.map verifyCalls).getD []
    globals := (o.st.map globalCalls).getD []
    later := ((o.st.map (cbQuiesce W 4)).map globalCalls).getD []
    received := (o.st.map eventsReceived).getD []
    path := o.path
    slots := o.st.map (·.slots)
    idle := o.st.map (·.mon.idle)
    quiet := o.st.map quiet
    room := o.st.map cbRoom }

def summaryAt (W : World) (err : Option EzErr) (path : Option Nat) (s : State) : Summary :=
  { err := err, view := some s.view, events := some s.events, skip := some s.skipVerify
    verifies := verifyCalls s, globals := globalCalls s, later := globalCalls (cbQuiesce W 4 s)
    received := eventsReceived s, path := path, slots := some s.slots, idle := some s.mon.idle
    quiet := some (quiet s), room := some (cbRoom s) }

theorem summary_of_st {W : World} {o : Out} {s : State} (h : o.st = some s) :
    summary W o = summaryAt W o.err o.path s := by
  simp [summary, summaryAt, h]

theorem summary_eq_iff_of_view {W : World} {o : Out} {S : Summary} {v : Version} (hv : S.view = some v)
    (h : summary W o = S) : ∃ s, o.st = some s ∧ summaryAt W o.err o.path s = S := by
  cases hs : o.st with
  | none => subst h; simp [summary, hs] at hv
  | some s => exact ⟨s, rfl, (summary_of_st hs).symm.trans h⟩

/-- the file-less stack and the full stack, as slot snapshots -/
def baseCfg (E : Env) : Slots := [blankV, E.envV, E.flagV]
def fullCfg (E : Env) (v : Nat) : Slots := [v, E.envV, E.flagV]

/-- Fail-fast guard.  The symbolic executions in Lemmas/EzRun.lean are carried out for exactly this script
(regenerated from ez/ez.go); when the source says something else this lemma fails at once and nothing
downstream is attempted (a stuck symbolic execution would otherwise run for a very long time). -/
theorem script_expected :
    Facts.ezSources = [.blank, .env, .flag] ∧ Facts.ezSetSourceOn = .blank ∧
    Facts.ezMainOps = [.config, .deferDone, .view, .configPath, .decoder, .fileSource, .setSource, .enable, .drain] ∧
    Facts.ezNoFileOps = [.enable] ∧
    Facts.ezChecked = [.config, .decoder, .fileSource, .setSource, .enable] ∧ Facts.ezNoFileChecked = [.enable] ∧
    Facts.ezDelay = true ∧ Facts.ezSuppress = true ∧ Facts.ezSkipInitial = false := by
  decide

/-! Unfolding lemmas for fully applied calls only (so that `simp` never unfolds a fuelled loop that is
waiting, partially applied, for a state it does not know yet). -/

theorem monUntilRet_zero (W : World) (r : Run) : monUntilRet W 0 r = none := rfl
theorem monUntilRet_succ (W : World) (n : Nat) (r : Run) :
    monUntilRet W (n + 1) r =
      if isReturned (getC r.st.clients 0) then some r else (r.step W (.runMon 0)).bind (monUntilRet W n) := rfl
theorem Cfg.run_zero (E : Env) (sch : Sched) (c : Cfg) : Cfg.run E sch 0 c = c := rfl
theorem Cfg.run_succ (E : Env) (sch : Sched) (n : Nat) (c : Cfg) :
    Cfg.run E sch (n + 1) c = Cfg.run E sch n (c.step E sch) := rfl
theorem monQuiesce_zero (W : World) (s : State) : monQuiesce W 0 s = s := rfl
theorem monQuiesce_succ (W : World) (n : Nat) (s : State) :
    monQuiesce W (n + 1) s = (step W s (.runMon 0)).elim s (monQuiesce W n) := rfl
theorem cbQuiesce_zero (W : World) (s : State) : cbQuiesce W 0 s = s := rfl
theorem cbQuiesce_succ (W : World) (n : Nat) (s : State) :
    cbQuiesce W (n + 1) s = (step W s .runCb).elim s (cbQuiesce W n) := rfl
theorem Run.stepL_apply (W : World) (l : Label) (r : Run) : Run.stepL W l r = r.step W l := rfl
theorem stepL_apply (W : World) (l : Label) (s : State) : stepL W l s = step W s l := rfl
theorem callFinish_apply (W : World) (r : Run) :
    callFinish W r = match getC r.st.clients 0 with
      | .returned res => (r.step W (.ack 0)).map (fun r' => (r', res))
      | _ => none := rfl

/-! `ez_exec`: the script interpreter and the runtime model's step functions, unfolded together to execute the
script on symbolic data, and the lemmas of the default simp set that this needs. -/
attribute [ez_exec] summary quiet MonPc.idle baseCfg fullCfg verifyCalls globalCalls eventsReceived ezRun Out.of fuel
  Cfg.run_zero Cfg.run_succ Cfg.step Cfg.next execTok Run.withSt Run.stepL_apply isReturned callFinish_apply stepL_apply
  monUntilRet_zero monUntilRet_succ monQuiesce_zero monQuiesce_succ cbQuiesce_zero cbQuiesce_succ
  Facts.ezMainOps Facts.ezChecked Facts.ezNoFileOps Facts.ezNoFileChecked
  configInit ezParams slots₀ watching₀ fileSlot Facts.ezSources Facts.ezSetSourceOn srcVal blankV
  Facts.ezDelay Facts.ezSuppress Facts.ezSkipInitial Facts.initialVerify Run.attempt Run.step Run.attempts
  step runMon runCb runClient initState readyIns State.isCancelled call getC setC State.setClient
  State.ret State.logAdd offerW monTake State.waitOr setSlot Facts.verifyOnUpdate
  Facts.initialSkipVerify Facts.nextSerial replyTo trySubmit cbRoom enqueueCb cbTake suppressedNow Facts.suppressNew
  enablePre drainPre capMonCtl Facts.capMonCtl finish State.blockClient cbSteps admitCbSender admitCtlSender
  callsFor finishEv Facts.globalGate capCbch Facts.capCbch setFalse laterReport

attribute [ez_exec] BEq.rfl Bool.and_eq_true Bool.and_false Bool.and_self Bool.and_true Bool.false_and Bool.false_eq_true
  Bool.false_or Bool.not_false Bool.not_true Bool.or_false Bool.or_self Bool.or_true Bool.true_eq_false Bool.true_or
  List.append_nil List.cons_append List.contains_eq_mem List.drop_nil List.drop_succ_cons List.filterMap_cons_none
  List.filterMap_cons_some List.filterMap_nil List.filter_cons_of_neg List.filter_nil List.find?_cons_of_neg
  List.find?_cons_of_pos List.find?_nil List.foldl_cons List.foldl_nil List.getElem_cons_zero List.idxOf_cons_self
  List.isEmpty_nil List.length_cons List.length_nil List.map_cons List.map_nil List.mem_cons List.nil_append
  List.not_mem_nil List.reverse_cons List.reverse_nil Nat.lt_add_one Nat.zero_add Nat.zero_lt_succ Option.bind_some
  Option.elim_none Option.elim_some Option.getD_none Option.getD_some Option.isSome_some Option.map_none
  Option.map_some Option.some.injEq and_false and_self and_true beq_iff_eq bne_iff_ne bne_self_eq_false decide_false
  decide_true false_or getElem?_pos ne_eq not_false_eq_true or_false or_self or_true true_and true_or

/-- `ez_eval [h₁, ..]` evaluates with the simp set `ez_exec` and the given facts about the environment.
`-implicitDefEqProofs`: most equations of `ez_exec` hold by `rfl`, and without a proof term for each such step the
kernel has to rediscover long evaluations of the fuelled loops by itself, at a cost exponential in the unused fuel.
`only`: looking every subterm up in the whole default simp set costs a third of the time; the simprocs are those
the evaluation meets (conditionals, constructor clashes, literal arithmetic). -/
macro "ez_eval" "[" hs:Lean.Parser.Tactic.simpLemma,* "]" : tactic =>
  `(tactic| simp -implicitDefEqProofs only [ez_exec, ↓reduceIte, reduceCtorEq, Nat.reduceAdd, Nat.reduceBEq, Nat.reduceLT,
    $hs,*])

theorem Cfg.run_add (E : Env) (sch : Sched) (m n : Nat) (c : Cfg) :
    Cfg.run E sch (m + n) c = Cfg.run E sch n (Cfg.run E sch m c) := by
  induction m generalizing c with
  | zero => simp [Cfg.run]
  | succ m ih => rw [Nat.succ_add, Cfg.run, Cfg.run, ih]

/-! ### every state of the script is a reachable state of the runtime model -/

theorem run_append (W : World) (s : State) (l1 l2 : List Label) :
    run W s (l1 ++ l2) = (run W s l1).bind (run W · l2) := by
  induction l1 generalizing s with
  | nil => simp [run]
  | cons l ls ih =>
    simp only [List.cons_append, run]
    cases step W s l with
    | none => simp
    | some s' => simpa using ih s'

theorem reachable_step {W : World} {P : Params} {sl : Slots} {w : List Bool} {s s' : State} {l : Label}
    (hr : Reachable W P sl w s) (h : step W s l = some s') : Reachable W P sl w s' := by
  obtain ⟨ls, hls⟩ := hr
  exact ⟨ls ++ [l], by simp [run_append, hls, run, h]⟩

/-- once Config has returned, the interpreter's runtime state is reachable from Config's initial state -/
def RunReach (E : Env) (r : Run) : Prop :=
  r.started = true → Reachable E.W ezParams (slots₀ E) watching₀ r.st

theorem RunReach.step {E : Env} {r r' : Run} {l : Label} (h : RunReach E r) (hs : r.step E.W l = some r') :
    RunReach E r' := by
  unfold Run.step at hs
  cases hst : Runtime.step E.W r.st l with
  | none => simp [hst] at hs
  | some s' =>
    simp only [hst, Option.map_some, Option.some.injEq] at hs
    subst hs
    intro hstart
    exact reachable_step (h hstart) hst

theorem RunReach.attempt {E : Env} {r : Run} (l : Label) (h : RunReach E r) : RunReach E (r.attempt E.W l) := by
  unfold Run.attempt
  cases hs : r.step E.W l with
  | none => simpa using h
  | some r' => simpa using h.step hs

theorem RunReach.attempts {E : Env} {r : Run} (ls : List Label) (h : RunReach E r) : RunReach E (r.attempts E.W ls) := by
  unfold Run.attempts
  induction ls generalizing r with
  | nil => simpa using h
  | cons l ls ih => simpa using ih (h.attempt l)

theorem RunReach.monUntilRet {E : Env} {n : Nat} {r r' : Run} (h : RunReach E r) (hs : monUntilRet E.W n r = some r') :
    RunReach E r' := by
  induction n generalizing r with
  | zero => simp [Ez.monUntilRet] at hs
  | succ n ih =>
    unfold Ez.monUntilRet at hs
    split at hs
    · cases hs; exact h
    · cases hst : r.step E.W (.runMon 0) with
      | none => simp [hst] at hs
      | some r1 => exact ih (h.step hst) (by simpa [hst] using hs)

theorem RunReach.call {E : Env} {r r' : Run} {op : Op} {res : Res} (h : RunReach E r)
    (hs : Ez.call E.W r op = some (r', res)) : RunReach E r' := by
  unfold Ez.call at hs
  cases h1 : r.step E.W (.begin 0 op 0) with
  | none => simp [h1] at hs
  | some r1 =>
    cases h2 : r1.step E.W (.runClient 0 0) with
    | none => simp [h1, h2, Run.stepL] at hs
    | some r2 =>
      cases h3 : Ez.monUntilRet E.W 8 r2 with
      | none => simp [h1, h2, h3, Run.stepL] at hs
      | some r3 =>
        simp only [h1, h2, h3, Option.bind_some, Run.stepL, callFinish] at hs
        split at hs
        · cases h4 : r3.step E.W (.ack 0) with
          | none => simp [h4] at hs
          | some r4 =>
            simp only [h4, Option.map_some, Option.some.injEq, Prod.mk.injEq] at hs
            obtain ⟨rfl, -⟩ := hs
            exact (((h.step h1).step h2).monUntilRet h3).step h4
        · cases hs

end Dials.Ez
