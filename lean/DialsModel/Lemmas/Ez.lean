/-
What the summaries of `ezRun` (Lemmas/EzRun.lean) say about the `Verify()` calls and ez's error in every
environment, and what a later report of the watching file source does to the state ez returned.
-/
import DialsModel.Lemmas.EzReach
import DialsModel.Lemmas.EzRun

namespace Dials.Ez
open Dials Dials.Runtime

set_option linter.unusedSimpArgs false

theorem fileSlot_eq : fileSlot = 0 := by
  simp [fileSlot, Facts.ezSources, Facts.ezSetSourceOn]

theorem quiet_iff (s : State) : quiet s = true ↔ s.monCtl = [] ∧ s.cancelled = [] ∧ s.clients = [(0, .idle)] := by
  unfold quiet
  constructor
  · intro h
    simp only [Bool.and_eq_true, List.isEmpty_iff] at h
    obtain ⟨⟨h1, h2⟩, h3⟩ := h
    refine ⟨h1, h2, ?_⟩
    split at h3
    · assumption
    · cases h3
  · rintro ⟨h1, h2, h3⟩
    simp [h1, h2, h3]

/-- what one later report of the watching file source does once ez has returned with verification
switched on: the monitor re-stacks with the new value in the file's slot, verifies, and installs the
next serial or rejects (view unchanged, error event for OnWatchedError) -/
theorem laterReport_spec (W : World) (s : State) (v' : Nat)
    (hidle : s.mon.idle = true) (hq : quiet s = true) (hskip : s.skipVerify = false) (hroom : cbRoom s = true)
    (hev : s.events = none) :
    ∃ s', laterReport W s v' = some s' ∧ s'.slots = setSlot s.slots 0 v' ∧ s'.skipVerify = false ∧
      (W.stackOk (setSlot s.slots 0 v') = true → W.valid (setSlot s.slots 0 v') = true →
        s'.view = ⟨s.view.serial + 1, setSlot s.slots 0 v'⟩ ∧
        verifyCalls s' = verifyCalls s ++ [(setSlot s.slots 0 v', true)] ∧
        Obs.queued (.newCfg s.view.cfg ⟨s.view.serial + 1, setSlot s.slots 0 v'⟩ false) false ∈ s'.log) ∧
      (W.stackOk (setSlot s.slots 0 v') = true → W.valid (setSlot s.slots 0 v') = false →
        s'.view = s.view ∧ verifyCalls s' = verifyCalls s ++ [(setSlot s.slots 0 v', false)] ∧
        Obs.queued (.watchErr .verify s.view.cfg (some (setSlot s.slots 0 v'))) false ∈ s'.log) ∧
      (W.stackOk (setSlot s.slots 0 v') = false →
        s'.view = s.view ∧ verifyCalls s' = verifyCalls s ∧
        Obs.queued (.watchErr .stack s.view.cfg none) false ∈ s'.log) := by
  obtain ⟨hmc, hcan, hcl⟩ := (quiet_iff s).1 hq
  obtain ⟨P, view, slots, watching, skipVerify, mon, cb, handles, lastSerial, lastVersion, cbch, monCtl, events,
    clients, cancelled, monDone, log⟩ := s
  simp only at hmc hcan hcl hskip hev
  subst hmc hcan hcl hskip hev
  simp only [] at hidle hroom
  -- all that matters of the callback goroutine is whether it waits in its select (the monitor then hands the event
  -- over) or not (the event is queued): no need to know where else it is
  have hcb : cb = .sel ∨ (∀ (s : State) ev, s.cb = cb → enqueueCb s ev = { s with cbch := s.cbch ++ [ev] }) ∧
      (∀ s : State, s.cb = cb → cbRoom s = decide (s.cbch.length < capCbch)) := by
    cases cb <;> first | exact .inl rfl | exact .inr ⟨fun s ev h => by simp [enqueueCb, h], fun s h => by simp [cbRoom, h]⟩
  rcases hcb with rfl | ⟨henq, hrm⟩
  · rcases Bool.eq_false_or_eq_true (W.stackOk (setSlot slots 0 v')) with h1 | h1 <;>
    rcases Bool.eq_false_or_eq_true (W.valid (setSlot slots 0 v')) with h2 | h2 <;>
    cases mon <;> simp [MonPc.idle] at hidle <;> simp -implicitDefEqProofs [ez_exec, h1, h2]
  · rw [hrm _ rfl] at hroom
    rcases Bool.eq_false_or_eq_true (W.stackOk (setSlot slots 0 v')) with h1 | h1 <;>
    rcases Bool.eq_false_or_eq_true (W.valid (setSlot slots 0 v')) with h2 | h2 <;>
    cases mon <;> simp [MonPc.idle] at hidle <;>
    simp -implicitDefEqProofs [laterReport, fileSlot_eq, monQuiesce_zero, monQuiesce_succ, stepL_apply, step, runMon,
      runClient, readyIns, State.isCancelled, getC, setC, State.setClient, State.ret, State.logAdd, offerW, monTake,
      State.waitOr, Facts.verifyOnUpdate, Facts.nextSerial, replyTo, trySubmit, hrm, henq, suppressedNow,
      Facts.suppressNew, State.blockClient, verifyCalls, h1, h2, hroom]

/-! ### the specification the script is compared with -/

/-- the config `Verify()` has to be called on: the stack with the file included - the file being the
one `ConfigPath` names on the file-less stack - or the file-less stack itself when `ConfigPath`
names no file; none when ez fails before there is such a config -/
def fullStack (E : Env) : Option Slots :=
  match E.path (baseCfg E) with
  | none => some (baseCfg E)
  | some p =>
    if E.decoder p then
      match E.file p with
      | some v => if E.W.stackOk (fullCfg E v) then some (fullCfg E v) else none
      | none => none
    else none

/-- complete description of the `Verify()` calls and of ez's error, for every environment and schedule -/
theorem ezRun_verifies (E : Env) (sch : Sched) (h0 : E.W.stackOk (baseCfg E) = true) :
    (summary E.W (ezRun E sch)).verifies = (match fullStack E with | some c => [(c, E.W.valid c)] | none => []) ∧
    ((summary E.W (ezRun E sch)).err = none ↔ ∃ c, fullStack E = some c ∧ E.W.valid c = true) ∧
    (∀ c, fullStack E = some c → E.W.valid c = false → (summary E.W (ezRun E sch)).err = some .verify) ∧
    (summary E.W (ezRun E sch)).err ≠ some .stuck ∧
    (summary E.W (ezRun E sch)).path = E.path (baseCfg E) ∧
    (summary E.W (ezRun E sch)).globals = [] ∧
    ((summary E.W (ezRun E sch)).err ≠ some (.integrate .errStack) → (summary E.W (ezRun E sch)).later = []) := by
  unfold fullStack
  cases hp : E.path (baseCfg E) with
  | none =>
    rw [ezRun_nopath E sch h0 hp]
    cases hv : E.W.valid (baseCfg E) <;> simp [hv]
  | some p =>
    rcases Bool.eq_false_or_eq_true (E.decoder p) with hd | hd
    · cases hf : E.file p with
      | none => rw [ezRun_fileErr E sch p h0 hp hd hf]; simp [hd, hf]
      | some v =>
        rcases Bool.eq_false_or_eq_true (E.W.stackOk (fullCfg E v)) with h1 | h1
        · rcases Bool.eq_false_or_eq_true (E.W.valid (fullCfg E v)) with h2 | h2
          · rw [ezRun_ok E sch p v h0 hp hd hf h1 h2]; simp [hd, hf, h1, h2]
          · rw [ezRun_vf E sch p v h0 hp hd hf h1 h2]; simp [hd, hf, h1, h2]
        · rw [ezRun_stackErr E sch p v h0 hp hd hf h1]; simp [hd, hf, h1]
    · rw [ezRun_noDecoder E sch p h0 hp hd]; simp [hd]

/-- re-stacking when only the file's slot is ever reported: the other slots keep Config's values -/
theorem foldl_file_only (e f : Nat) (h : List Obs) (hsrc : ∀ src v r, Obs.gotUpd src v r ∈ h → src = 0) (a : Nat) :
    ∃ x, h.foldl (fun acc o => match o with | .gotUpd src v _ => setSlot acc src v | _ => acc) [a, e, f] = [x, e, f] ∧
      (x = a ∨ ∃ r, Obs.gotUpd 0 x r ∈ h) := by
  induction h generalizing a with
  | nil => exact ⟨a, rfl, Or.inl rfl⟩
  | cons o os ih =>
    have hos : ∀ src v r, Obs.gotUpd src v r ∈ os → src = 0 := fun src v r hm => hsrc src v r (List.mem_cons_of_mem _ hm)
    cases o
    case gotUpd src v r =>
      have : src = 0 := hsrc src v r (List.mem_cons_self ..)
      subst this
      obtain ⟨x, hx, hor⟩ := ih hos v
      refine ⟨x, by simpa [List.foldl, setSlot] using hx, ?_⟩
      rcases hor with rfl | ⟨r', hr'⟩
      · exact Or.inr ⟨r, List.mem_cons_self ..⟩
      · exact Or.inr ⟨r', List.mem_cons_of_mem _ hr'⟩
    all_goals
      obtain ⟨x, hx, hor⟩ := ih hos a
      refine ⟨x, by simpa [List.foldl] using hx, ?_⟩
      rcases hor with rfl | ⟨r', hr'⟩
      · exact Or.inl rfl
      · exact Or.inr ⟨r', List.mem_cons_of_mem _ hr'⟩

end Dials.Ez
