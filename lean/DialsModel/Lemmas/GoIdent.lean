/- The Go-identifier half of C19: `goLoop` on a good identifier returns its tokens, by induction on the token list with
one invariant for each of the two states the loop can be in at a token boundary (`AfterWord`, `InRun`). -/
import DialsModel.Model.CaseConvSpec
import DialsModel.Lemmas.CaseConv

namespace Dials.CaseConv

theorem upperS_of_all_upper (w : Str) (h : w.all isUpperA = true) : upperS w = w := by
  induction w with
  | nil => rfl
  | cons c cs ih =>
    simp only [List.all_cons, Bool.and_eq_true] at h
    simp only [upperS, List.map_cons] at *
    rw [toUpperA_of_not_lower c (not_lower_of_upper c h.1), ih h.2]

theorem allUpper_of_all_upper (w : Str) (h : w.all isUpperA = true) : allUpper w = true := by
  simp [allUpper, upperS_of_all_upper w h]

theorem toUpperA_ne_of_lower (d : Char) (h : isLowerA d = true) : toUpperA d ≠ d := by
  intro e
  have h1 := isUpperA_toUpperA d h
  rw [e, not_upper_of_lower d h] at h1
  cases h1

theorem all_upper_append {a b : Str} (ha : a.all isUpperA = true) (hb : b.all isUpperA = true) :
    (a ++ b).all isUpperA = true := by
  simp only [List.all_append, ha, hb, Bool.and_self]

theorem capWord_cases {w : Str} (h : isCapWord w = true) :
    ∃ c d w', w = c :: d :: w' ∧ isUpperA c = true ∧ isLowerA d = true ∧ w'.all isLowerA = true := by
  match w, h with
  | c :: d :: rest, h =>
    simp only [isCapWord, Bool.and_eq_true] at h
    exact ⟨c, d, rest, rfl, h.1.1, h.1.2, h.2⟩

theorem initStr_cases {i : Str} (h : isInitStr i = true) :
    ∃ u us, i = u :: us ∧ isUpperA u = true ∧ us.all isUpperA = true := by
  cases i with
  | nil => simp [isInitStr] at h
  | cons u us => exact ⟨u, us, rfl, by simpa [isInitStr] using h⟩

theorem flushWord_capWord (inits : List Str) (acc : Words) (w : Str) (h : isCapWord w = true) :
    flushWord inits acc w = acc ++ [lowerS w] := by
  obtain ⟨c, d, w', rfl, -, hd, -⟩ := capWord_cases h
  have : allUpper (c :: d :: w') = false := by
    simp only [allUpper, upperS, List.map_cons, beq_eq_false_iff_ne, ne_eq, List.cons.injEq, not_and]
    exact fun _ e => absurd e.symm (toUpperA_ne_of_lower d hd)
  simp [flushWord, this]

theorem flushWord_upper (inits : List Str) (acc : Words) (w : Str) (hne : w ≠ [])
    (h : w.all isUpperA = true) : flushWord inits acc w = acc ++ extractInitialismsWith inits w := by
  simp [flushWord, hne, allUpper_of_all_upper w h]

theorem flushWord_nil (inits : List Str) (acc : Words) : flushWord inits acc [] = acc := rfl

theorem firstAfter_false_of_head (c : Char) (rest : Str)
    (h : ∀ r2 tl, rest = r2 :: tl → isLowerA r2 = false) : firstAfterInitialism c rest = false := by
  match rest, h with
  | [], _ => rfl
  | [_], _ => rfl
  | r2 :: _ :: _, h => simp [firstAfterInitialism, h r2 _ rfl]

theorem firstAfter_false_of_not_upper (c : Char) (rest : Str) (h : isUpperA c = false) :
    firstAfterInitialism c rest = false := by
  match rest with
  | [] => rfl
  | [_] => rfl
  | r2 :: _ :: _ => simp [firstAfterInitialism, h]

theorem firstAfter_true (c d : Char) (y : Str) (hc : isUpperA c = true) (hd : isLowerA d = true)
    (hy : y ≠ []) : firstAfterInitialism c (d :: y) = true := by
  cases y with
  | nil => exact absurd rfl hy
  | cons x y => simp [firstAfterInitialism, hc, hd]

section
variable (inits : List Str) {isB : Char → Bool} (hB : ∀ c, isUpperA c = true ∨ isLowerA c = true → isB c = false)

theorem goLoop_step (prev : Option Char) (c : Char) (rest cur : Str) (acc : Words) :
    goLoop inits isB prev (c :: rest) cur acc =
      if (isUpperA c && prevLower prev) || firstAfterInitialism c rest || isB c then
        goLoop inits isB (some c) rest (if isB c then [] else [c]) (flushWord inits acc cur)
      else if rest.isEmpty && isUpperA c then
        if !cur.isEmpty && allUpper (cur ++ [c]) then acc ++ extractInitialismsWith inits (cur ++ [c])
        else goLoop inits isB (some c) rest [c] acc
      else goLoop inits isB (some c) rest (cur ++ [c]) acc := by
  rw [goLoop]

include hB

theorem goLoop_lower (prev : Option Char) (d : Char) (tl cur : Str) (acc : Words) (hd : isLowerA d = true) :
    goLoop inits isB prev (d :: tl) cur acc = goLoop inits isB (some d) tl (cur ++ [d]) acc := by
  have hu := not_upper_of_lower d hd
  rw [goLoop_step]
  simp [hu, firstAfter_false_of_not_upper d tl hu, hB d (.inr hd)]

theorem goLoop_lowers (d : Char) (ls : Str) (h : (d :: ls).all isLowerA = true) (prev : Option Char) (tl cur : Str)
    (acc : Words) :
    ∃ q, isLowerA q = true ∧
      goLoop inits isB prev (d :: ls ++ tl) cur acc = goLoop inits isB (some q) tl (cur ++ d :: ls) acc := by
  simp only [List.all_cons, Bool.and_eq_true] at h
  induction ls generalizing d prev cur with
  | nil => exact ⟨d, h.1, goLoop_lower inits hB prev d tl cur acc h.1⟩
  | cons e ls ih =>
    obtain ⟨q, hq, he⟩ := ih e (some d) (cur ++ [d]) (by simpa using h.2)
    exact ⟨q, hq, by rw [List.cons_append, goLoop_lower inits hB prev d _ cur acc h.1, he]; simp⟩

theorem goLoop_capital (prev : Option Char) (c : Char) (tl cur : Str) (acc : Words) (hc : isUpperA c = true)
    (hp : prevLower prev = true ∨ cur = []) :
    goLoop inits isB prev (c :: tl) cur acc = goLoop inits isB (some c) tl [c] (flushWord inits acc cur) := by
  rw [goLoop_step]
  rcases hp with hp | rfl
  · simp [hc, hp, hB c (.inl hc)]
  · cases firstAfterInitialism c tl <;> cases tl <;> simp [hc, hB c (.inl hc), flushWord]

theorem goLoop_uppers (us : Str) (hus : us.all isUpperA = true) (tl : Str) (hne : tl ≠ [])
    (hhead : ∀ r2 tl', tl = r2 :: tl' → isLowerA r2 = false) (prev : Option Char) (hp : prevLower prev = false)
    (cur : Str) (acc : Words) :
    ∃ p, prevLower p = false ∧
      goLoop inits isB prev (us ++ tl) cur acc = goLoop inits isB p tl (cur ++ us) acc := by
  induction us generalizing prev cur with
  | nil => exact ⟨prev, hp, by simp⟩
  | cons u us ih =>
    simp only [List.all_cons, Bool.and_eq_true] at hus
    obtain ⟨p, hp', he⟩ := ih hus.2 (some u) (not_lower_of_upper u hus.1) (cur ++ [u])
    refine ⟨p, hp', ?_⟩
    have hfa : firstAfterInitialism u (us ++ tl) = false := by
      refine firstAfter_false_of_head u _ fun r2 tl' e => ?_
      cases us with
      | nil => exact hhead r2 tl' e
      | cons q r =>
        simp only [List.all_cons, Bool.and_eq_true] at hus
        cases e
        exact not_lower_of_upper _ hus.2.1
    rw [List.cons_append, goLoop_step, he]
    simp [hp, hfa, hB u (.inl hus.1), hne]

theorem goLoop_run_eos (us : Str) (hne : us ≠ []) (hus : us.all isUpperA = true)
    (prev : Option Char) (cur : Str) (acc : Words) (hp : prevLower prev = false) (hcn : cur ≠ [])
    (hcu : cur.all isUpperA = true) :
    goLoop inits isB prev us cur acc = acc ++ extractInitialismsWith inits (cur ++ us) := by
  rw [← List.dropLast_concat_getLast hne] at hus ⊢
  generalize us.dropLast = vs at *
  generalize us.getLast hne = u at *
  simp only [List.all_append, List.all_cons, List.all_nil, Bool.and_true, Bool.and_eq_true] at hus
  obtain ⟨p, hp', he⟩ := goLoop_uppers inits hB vs hus.1 [u] (by simp)
    (fun r2 _ e => by cases e; exact not_lower_of_upper _ hus.2) prev hp cur acc
  have hall : allUpper (cur ++ (vs ++ [u])) = true :=
    allUpper_of_all_upper _ (all_upper_append hcu (all_upper_append hus.1 (by simp [hus.2])))
  rw [he, goLoop_step]
  simp [hp', firstAfterInitialism, hB u (.inl hus.2), hus.2, hcn, hall]

theorem goLoop_run_word (us : Str) (hus : us.all isUpperA = true)
    (c d : Char) (y : Str) (hc : isUpperA c = true) (hd : isLowerA d = true) (hy : y ≠ [])
    (prev : Option Char) (cur : Str) (acc : Words) (hp : prevLower prev = false) (hcn : cur ≠ [])
    (hcu : cur.all isUpperA = true) :
    goLoop inits isB prev (us ++ c :: d :: y) cur acc =
      goLoop inits isB (some c) (d :: y) [c] (acc ++ extractInitialismsWith inits (cur ++ us)) := by
  obtain ⟨p, -, he⟩ := goLoop_uppers inits hB us hus (c :: d :: y) (by simp)
    (fun r2 _ e => by cases e; exact not_lower_of_upper _ hc) prev hp cur acc
  rw [he, goLoop_step, ← flushWord_upper inits acc _ (by simp [hcn]) (all_upper_append hcu hus)]
  simp [firstAfter_true c d y hc hd hy, hB c (.inl hc)]

end

theorem render_cons (t : Tok) (ts : List Tok) : render (t :: ts) = t.str ++ render ts := by
  simp [render]

theorem expected_cons (t : Tok) (ts : List Tok) : expected (t :: ts) = lowerS t.str :: expected ts := by
  simp [expected]

theorem wf_head_upper {t : Tok} (h : t.wf = true) : ∃ c tl, t.str = c :: tl ∧ isUpperA c = true := by
  cases t with
  | word w =>
    obtain ⟨c, d, w', e, hc, -⟩ := capWord_cases h
    exact ⟨c, d :: w', e, hc⟩
  | init i =>
    obtain ⟨u, us, e, hu, -⟩ := initStr_cases h
    exact ⟨u, us, e, hu⟩

theorem tailOk_tail (t : Tok) (ts : List Tok) (h : tailOk (t :: ts) = true) : tailOk ts = true := by
  match ts with
  | [] => rfl
  | [_] => rfl
  | t2 :: t3 :: r => rwa [tailOk.eq_4 t t2 (t3 :: r) fun _ _ _ _ => nofun] at h

theorem flatten_singleton {run : List Str} {u : Char} (hne : ∀ i ∈ run, i ≠ [])
    (h : [u] = run.flatten) : run = [[u]] := by
  match run with
  | [] => simp at h
  | [a] => simpa using h.symm
  | a :: b :: r =>
    have := congrArg List.length h
    have ha := List.length_pos_iff.2 (hne a (by simp))
    have hb := List.length_pos_iff.2 (hne b (by simp))
    simp at this
    omega

theorem isEmpty_of_flatten {run : List Str} {u : Char} {us : Str} (h : u :: us = run.flatten) :
    run.isEmpty = false := by
  cases run with
  | nil => cases h
  | cons => rfl

section
variable (inits : List Str) (isB : Char → Bool)

def OkRun (r : List Str) : Prop :=
  extractInitialismsWith inits r.flatten = r.map lowerS

/-- between words: `cur` is a complete word (or nothing, at the very beginning) -/
def AfterWord (rest : List Tok) : Prop :=
  ∀ (prev : Option Char) (cur : Str) (acc : Words),
    (isCapWord cur = true ∧ prevLower prev = true) ∨ cur = [] →
    (∀ r ∈ initRunsAux rest [], OkRun inits r) → tailOk rest = true →
    goLoop inits isB prev (render rest) cur acc = flushWord inits acc cur ++ expected rest

/-- after the first character `u` of the initialisms `run`, whose remaining characters are `us` -/
def InRun (rest : List Tok) : Prop :=
  ∀ (run : List Str) (u : Char) (us : Str) (acc : Words) (j : Str), u :: us = run.flatten →
    (∀ i ∈ run, i ≠ []) → (u :: us).all isUpperA = true →
    (∀ r ∈ initRunsAux rest run, OkRun inits r) → tailOk (.init j :: rest) = true →
    goLoop inits isB (some u) (us ++ render rest) [u] acc = acc ++ run.map lowerS ++ expected rest

variable {inits isB} (hB : ∀ c, isUpperA c = true ∨ isLowerA c = true → isB c = false)
include hB

omit hB in
theorem afterWord_nil : AfterWord inits isB [] := by
  intro prev cur acc hcur _ _
  rcases hcur with ⟨hw, -⟩ | rfl
  · obtain ⟨c, d, w', rfl, -⟩ := capWord_cases hw
    simp [render, expected, goLoop, flushWord_capWord inits acc _ hw]
  · simp [render, expected, goLoop, flushWord]

theorem inRun_nil : InRun inits isB [] := by
  intro run u us acc j hflat hne hU hok _
  have hrun : OkRun inits run := hok run (by simp [initRunsAux, isEmpty_of_flatten hflat])
  simp only [render, List.map_nil, List.flatten_nil, List.append_nil, expected]
  cases us with
  | nil =>
    rw [flatten_singleton hne hflat]
    simp [goLoop]
  | cons q r =>
    simp only [List.all_cons, Bool.and_eq_true] at hU
    rw [goLoop_run_eos inits hB (q :: r) (by simp) (by simpa using hU.2) (some u) [u] acc
      (not_lower_of_upper u hU.1) (by simp) (by simp [hU.1])]
    have : [u] ++ q :: r = run.flatten := by simpa using hflat
    rw [this, hrun]

theorem word_tail (rest : List Tok) (hA : AfterWord inits isB rest) (c d : Char)
    (v : Str) (hv : isCapWord (c :: d :: v) = true) (prev : Option Char) (acc : Words)
    (hok : ∀ r ∈ initRunsAux rest [], OkRun inits r) (ht : tailOk rest = true) :
    goLoop inits isB prev (d :: (v ++ render rest)) [c] acc =
      acc ++ [lowerS (c :: d :: v)] ++ expected rest := by
  obtain ⟨q, hq, he⟩ := goLoop_lowers inits hB d v (by simp_all [isCapWord]) prev (render rest) [c] acc
  rw [← List.cons_append, he]
  exact (hA (some q) _ acc (.inl ⟨hv, hq⟩) hok ht).trans (by rw [flushWord_capWord inits acc _ hv])

theorem afterWord_word (rest : List Tok) (hA : AfterWord inits isB rest) (v : Str)
    (hv : isCapWord v = true) : AfterWord inits isB (.word v :: rest) := by
  intro prev cur acc hcur hok ht
  obtain ⟨c, d, v', rfl, hc, -⟩ := capWord_cases hv
  rw [render_cons, expected_cons]
  simp only [Tok.str, List.cons_append]
  rw [goLoop_capital inits hB prev c _ cur acc hc (hcur.imp_left (·.2)),
    word_tail hB rest hA c d v' hv (some c) _ (fun r hr => hok r (by simpa [initRunsAux] using hr))
      (tailOk_tail _ _ ht)]
  simp

theorem afterWord_init (rest : List Tok) (hR : InRun inits isB rest) (i : Str)
    (hi : isInitStr i = true) : AfterWord inits isB (.init i :: rest) := by
  intro prev cur acc hcur hok ht
  obtain ⟨u, us, rfl, hu, hus⟩ := initStr_cases hi
  rw [render_cons, expected_cons]
  simp only [Tok.str, List.cons_append]
  rw [goLoop_capital inits hB prev u _ cur acc hu (hcur.imp_left (·.2)),
    hR [u :: us] u us _ (u :: us) (by simp) (by simp) (by simp [hu, hus])
      (fun r hr => hok r (by simpa [initRunsAux] using hr)) ht]
  simp

omit hB in
theorem inRun_init (rest : List Tok) (hR : InRun inits isB rest) (i : Str)
    (hi : isInitStr i = true) : InRun inits isB (.init i :: rest) := by
  intro run u us acc j hflat hne hU hok ht
  obtain ⟨a, as, rfl, ha, has⟩ := initStr_cases hi
  rw [render_cons, expected_cons]
  simp only [Tok.str]
  rw [← List.append_assoc,
    hR (run ++ [a :: as]) u (us ++ a :: as) acc (a :: as) (by simp [← hflat])
      (fun x hx => (List.mem_append.1 hx).elim (hne x) (by simp +contextual))
      (by rw [← List.cons_append]; exact all_upper_append hU (by simp [ha, has]))
      (fun r hr => hok r (by simpa [initRunsAux] using hr))
      (tailOk_tail _ _ ht)]
  simp

theorem inRun_word (rest : List Tok) (hA : AfterWord inits isB rest)
    (hwf : rest.all Tok.wf = true) (v : Str)
    (hv : isCapWord v = true) : InRun inits isB (.word v :: rest) := by
  intro run u us acc j hflat hne hU hok ht
  obtain ⟨c, d, v', rfl, hc, hd, -⟩ := capWord_cases hv
  have hrunne := isEmpty_of_flatten hflat
  have hrun : OkRun inits run := hok run (by simp [initRunsAux, hrunne])
  -- `tailOk`: a word directly after the run is not the two-letter end of the string
  have hy : v' ++ render rest ≠ [] := by
    cases rest with
    | nil =>
      cases v' with
      | nil => cases ht
      | cons => nofun
    | cons t rest' =>
      simp only [List.all_cons, Bool.and_eq_true] at hwf
      obtain ⟨x, tl, e, -⟩ := wf_head_upper hwf.1
      simp [render_cons, e]
  simp only [List.all_cons, Bool.and_eq_true] at hU
  rw [render_cons, expected_cons]
  simp only [Tok.str, List.cons_append]
  rw [goLoop_run_word inits hB us hU.2 c d _ hc hd hy (some u) [u] acc (not_lower_of_upper u hU.1) (by simp)
    (by simp [hU.1])]
  have : [u] ++ us = run.flatten := by simpa using hflat
  rw [this, hrun, word_tail hB rest hA c d v' hv (some c) _ (fun r hr => hok r (by simp [initRunsAux, hrunne, hr]))
    (tailOk_tail _ _ (tailOk_tail _ _ ht))]
  simp

theorem tokens_inv (rest : List Tok) (hwf : rest.all Tok.wf = true) :
    AfterWord inits isB rest ∧ InRun inits isB rest := by
  induction rest with
  | nil => exact ⟨afterWord_nil, inRun_nil hB⟩
  | cons t rest ih =>
    simp only [List.all_cons, Bool.and_eq_true] at hwf
    obtain ⟨ihA, ihR⟩ := ih hwf.2
    cases t with
    | word v => exact ⟨afterWord_word hB rest ihA v hwf.1, inRun_word hB rest ihA hwf.2 v hwf.1⟩
    | init i => exact ⟨afterWord_init hB rest ihR i hwf.1, inRun_init rest ihR i hwf.1⟩

end

theorem letter_ne_underscore (c : Char) (h : isUpperA c = true ∨ isLowerA c = true) : (c == '_') = false :=
  h.elim (upper_ne_underscore c) (lower_ne_underscore c)

theorem goLoop_good (inits : List Str) (ts : List Tok) (h : GoodIdent inits ts = true) :
    goLoop inits (fun c => c == '_') none (render ts) [] [] = expected ts := by
  simp only [GoodIdent, Bool.and_eq_true] at h
  obtain ⟨⟨⟨-, hwf⟩, hruns⟩, ht⟩ := h
  simp only [runsOk, initRuns, List.all_eq_true] at hruns
  exact (tokens_inv letter_ne_underscore ts hwf).1 none [] [] (.inr rfl) (fun r hr => eq_of_beq (hruns r hr)) ht

def startsLower (k : String) : Bool :=
  match k.toList with
  | c :: _ => isLowerA c
  | [] => false

theorem goKeywords_startLower : goKeywords.all startsLower = true := by decide

theorem not_keyword_of_upper (c : Char) (cs : Str) (hc : isUpperA c = true) :
    goKeywords.contains (String.ofList (c :: cs)) = false := by
  cases hk : goKeywords.contains (String.ofList (c :: cs)) with
  | false => rfl
  | true =>
    have := List.all_eq_true.1 goKeywords_startLower _ (List.contains_iff_mem.1 hk)
    simp [startsLower, not_lower_of_upper c hc] at this

theorem tok_all_letters {t : Tok} (h : t.wf = true) : t.str.all isLetterA = true := by
  cases t with
  | word w =>
    obtain ⟨c, d, w', rfl, hc, hd, hw'⟩ := capWord_cases h
    simp only [Tok.str, List.all_cons, isLetterA, hc, hd, Bool.true_or, Bool.or_true, Bool.true_and]
    rw [List.all_eq_true] at hw' ⊢
    intro x hx; simp [isLetterA, hw' x hx]
  | init i =>
    obtain ⟨u, us, rfl, hu, hus⟩ := initStr_cases h
    simp only [Tok.str, List.all_cons, isLetterA, hu, Bool.true_or, Bool.true_and]
    rw [List.all_eq_true] at hus ⊢
    intro x hx; simp [isLetterA, hus x hx]

theorem render_all_letters (ts : List Tok) (hwf : ts.all Tok.wf = true) :
    (render ts).all isLetterA = true := by
  induction ts with
  | nil => rfl
  | cons t ts ih =>
    simp only [List.all_cons, Bool.and_eq_true] at hwf
    rw [render_cons, List.all_append, tok_all_letters hwf.1, ih hwf.2]; rfl

theorem isIdentifier_good (inits : List Str) (ts : List Tok) (h : GoodIdent inits ts = true) :
    isIdentifier (render ts) = true := by
  simp only [GoodIdent, Bool.and_eq_true] at h
  obtain ⟨⟨⟨hne, hwf⟩, _⟩, _⟩ := h
  have hall := render_all_letters ts hwf
  cases ts with
  | nil => simp at hne
  | cons t rest =>
    simp only [List.all_cons, Bool.and_eq_true] at hwf
    obtain ⟨c, tl, e, hc⟩ := wf_head_upper hwf.1
    rw [render_cons, e, List.cons_append] at hall ⊢
    simp only [List.all_cons, Bool.and_eq_true] at hall
    have htl : (tl ++ render rest).all (fun d => isLetterA d || d == '_' || isDigitA d) = true := by
      have h2 := hall.2
      rw [List.all_eq_true] at h2 ⊢
      intro x hx; simp [h2 x hx]
    simp only [isIdentifier, hall.1, Bool.true_or, htl, not_keyword_of_upper c _ hc, Bool.not_false,
      Bool.and_self]

theorem decodeGoCamelWith_good (inits : List Str) (ts : List Tok) (h : GoodIdent inits ts = true) :
    decodeGoCamelWith inits (render ts) = some (expected ts) := by
  simp only [decodeGoCamelWith, isIdentifier_good inits ts h, if_true, goLoop_good inits ts h]

end Dials.CaseConv
