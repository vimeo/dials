/- Lemmas for Props/C19.lean: the decoders' loops (`camelLoop`, `splitLoop`) consume a word / a joined word list. -/
import DialsModel.Model.CaseConv
import DialsModel.Lemmas.Chars

namespace Dials.CaseConv

def isWord : Str → Bool
  | [] => false
  | c :: cs => isLowerA c && cs.all lowerOk

theorem lowerOk_cases {c : Char} (h : lowerOk c = true) : isLowerA c = true ∨ isDigitA c = true := by
  simpa [lowerOk] using h

theorem lowerOk_not_upper {c : Char} (h : lowerOk c = true) : isUpperA c = false :=
  (lowerOk_cases h).elim (not_upper_of_lower c) (not_upper_of_digit c)

theorem lowerOk_alnum {c : Char} (h : lowerOk c = true) : isAlnum c = true := by
  rcases lowerOk_cases h with h | h <;> simp [isAlnum, isLetterA, h]

theorem lowerOk_toLower {c : Char} (h : lowerOk c = true) : toLowerA c = c :=
  toLowerA_of_not_upper c (lowerOk_not_upper h)

theorem lowerOk_lower_upper {c : Char} (h : lowerOk c = true) : toLowerA (toUpperA c) = c := by
  rcases lowerOk_cases h with h | h
  · exact toLowerA_toUpperA c h
  · rw [toUpperA_of_not_lower c (not_lower_of_digit c h), toLowerA_of_not_upper c (not_upper_of_digit c h)]

theorem lowerOk_upperOk_upper {c : Char} (h : lowerOk c = true) : upperOk (toUpperA c) = true := by
  rcases lowerOk_cases h with h | h
  · simp [upperOk, isUpperA_toUpperA c h]
  · rw [toUpperA_of_not_lower c (not_lower_of_digit c h)]; simp [upperOk, h]

theorem lowerOk_ne_us {c : Char} (h : lowerOk c = true) : (c == '_') = false :=
  (lowerOk_cases h).elim (lower_ne_underscore c) (digit_ne_underscore c)

theorem lowerOk_ne_dash {c : Char} (h : lowerOk c = true) : (c == '-') = false :=
  (lowerOk_cases h).elim (lower_ne_dash c) (digit_ne_dash c)

theorem upperOk_ne_us {c : Char} (h : upperOk c = true) : (c == '_') = false := by
  have : isUpperA c = true ∨ isDigitA c = true := by simpa [upperOk] using h
  exact this.elim (upper_ne_underscore c) (digit_ne_underscore c)

theorem lowerS_map (g : Char → Char) (hg : ∀ c, lowerOk c = true → toLowerA (g c) = c) (w : Str)
    (h : w.all lowerOk = true) : lowerS (w.map g) = w := by
  induction w with
  | nil => rfl
  | cons c cs ih =>
    simp only [List.all_cons, Bool.and_eq_true] at h
    simp only [lowerS, List.map_cons] at *
    rw [hg c h.1, ih h.2]

theorem lowerS_of_all_lowerOk (w : Str) (h : w.all lowerOk = true) : lowerS w = w := by
  simpa using lowerS_map id (fun _ => lowerOk_toLower) w h

theorem word_cases {w : Str} (h : isWord w = true) :
    ∃ c cs, w = c :: cs ∧ isLowerA c = true ∧ cs.all lowerOk = true := by
  cases w with
  | nil => simp [isWord] at h
  | cons c cs => exact ⟨c, cs, rfl, by simpa [isWord] using h⟩

theorem word_all_lowerOk {w : Str} (h : isWord w = true) : w.all lowerOk = true := by
  obtain ⟨c, cs, rfl, hc, hcs⟩ := word_cases h
  simp [lowerOk, hc, hcs]

theorem camelLoop_tail (cs : Str) (h : cs.all lowerOk = true) (r cur : Str) :
    camelLoop (cs ++ r) cur = camelLoop r (cur ++ cs) := by
  induction cs generalizing cur with
  | nil => simp
  | cons c cs ih =>
    simp only [List.all_cons, Bool.and_eq_true] at h
    simp only [List.cons_append, camelLoop, lowerOk_alnum h.1, lowerOk_not_upper h.1]
    simp only [Bool.not_true, Bool.false_eq_true, if_false]
    rw [ih h.2]; simp

/-- the capital of each titled word flushes the word before it -/
theorem camelLoop_words (ws : Words) (h : ∀ w ∈ ws, isWord w = true) (cur : Str) (hne : cur ≠ [] ∨ ws ≠ []) :
    camelLoop ((ws.map title).flatten) cur = some ((if cur.isEmpty then [] else [lowerS cur]) ++ ws) := by
  induction ws generalizing cur with
  | nil =>
    have : cur.isEmpty = false := by simpa using hne
    simp [camelLoop, this]
  | cons w ws ih =>
    obtain ⟨c, cs, rfl, hc, hcs⟩ := word_cases (h w (by simp))
    have hU := isUpperA_toUpperA c hc
    have hal : isAlnum (toUpperA c) = true := by simp [isAlnum, isLetterA, hU]
    have hword : lowerS (toUpperA c :: cs) = c :: cs := by
      simp only [lowerS, List.map_cons, toLowerA_toUpperA c hc]
      exact congrArg _ (lowerS_of_all_lowerOk cs hcs)
    simp only [List.map_cons, List.flatten_cons, title, List.cons_append, camelLoop, hal, hU]
    simp only [Bool.not_true, Bool.false_eq_true, if_false, if_true]
    rw [camelLoop_tail cs hcs, ih (fun w hw' => h w (by simp [hw'])) _ (.inl (by simp))]
    cases cur <;> simp [hword]

theorem splitLoop_tail (sep : Char) (ok : Char → Bool) (k : Bool) (cs : Str)
    (h : ∀ c ∈ cs, ok c = true ∧ (c == sep) = false) (r cur : Str) :
    splitLoop sep ok k (cs ++ r) cur = splitLoop sep ok k r (cur ++ cs) := by
  induction cs generalizing cur with
  | nil => simp
  | cons c cs ih =>
    have hc := h c (by simp)
    simp only [List.cons_append, splitLoop, hc.1, hc.2]
    simp only [Bool.not_true, Bool.false_eq_true, if_false]
    rw [ih (fun c hc' => h c (by simp [hc']))]; simp

theorem splitLoop_join (sep : Char) (ok : Char → Bool) (k : Bool) (w : Str) (ws : Words)
    (h : ∀ v ∈ w :: ws, v ≠ [] ∧ ∀ c ∈ v, ok c = true ∧ (c == sep) = false) (cur : Str) :
    splitLoop sep ok k (joinWith sep (w :: ws)) cur = some (lowerS (cur ++ w) :: ws.map lowerS) := by
  induction ws generalizing w cur with
  | nil =>
    have hw := h w (by simp)
    have := splitLoop_tail sep ok k w hw.2 [] cur
    rw [List.append_nil] at this
    simp [joinWith, this, splitLoop, hw.1]
  | cons w2 ws ih =>
    have hw := h w (by simp)
    rw [joinWith, splitLoop_tail sep ok k w hw.2]
    · simp only [splitLoop, beq_self_eq_true, if_true]
      rw [ih w2 (fun v hv => h v (List.mem_cons_of_mem _ hv)) []]
      simp [hw.1]
    · exact List.cons_ne_nil _ _

theorem split_roundtrip (sep : Char) (ok : Char → Bool) (k : Bool) (g : Char → Char)
    (hg : ∀ c, lowerOk c = true → ok (g c) = true ∧ (g c == sep) = false ∧ toLowerA (g c) = c)
    (ws : Words) (hne : ws ≠ []) (h : ∀ w ∈ ws, isWord w = true) :
    (if badStart (joinWith sep (ws.map (List.map g))) then none
      else splitLoop sep ok k (joinWith sep (ws.map (List.map g))) []) = some ws := by
  have hlow : (ws.map (List.map g)).map lowerS = ws := by
    rw [List.map_map]
    exact (List.map_congr_left fun v hv => lowerS_map g (fun c hc => (hg c hc).2.2) v (word_all_lowerOk (h v hv))).trans
      (List.map_id _)
  obtain ⟨w, ws, rfl⟩ := List.exists_cons_of_ne_nil hne
  obtain ⟨c, cs, rfl, hc, hcs⟩ := word_cases (h w (by simp))
  -- the first character is no digit: lower-casing a digit would leave it a digit
  have hd : isDigitA (g c) = false := by
    cases hd : isDigitA (g c) with
    | false => rfl
    | true =>
      have := (hg c (by simp [lowerOk, hc])).2.2
      rw [toLowerA_of_not_upper _ (not_upper_of_digit _ hd)] at this
      rw [this, not_digit_of_lower c hc] at hd
      cases hd
  have hb : badStart (joinWith sep (((c :: cs) :: ws).map (List.map g))) = false := by
    cases ws <;> simp [joinWith, badStart, hd]
  rw [hb, List.map_cons, splitLoop_join]
  · simpa using hlow
  · intro v hv
    obtain ⟨u, hu, rfl⟩ := List.mem_map.1 (show v ∈ ((c :: cs) :: ws).map (List.map g) from hv)
    obtain ⟨a, as, rfl, -⟩ := word_cases (h u hu)
    refine ⟨by simp, fun d hd => ?_⟩
    obtain ⟨e, he, rfl⟩ := List.mem_map.1 hd
    have := hg e (List.all_eq_true.1 (word_all_lowerOk (h _ hu)) e he)
    exact ⟨this.1, this.2.1⟩

end Dials.CaseConv
