/-
Lemmas for Props/C13.lean.  Every function of Model/Decode.lean and Model/DecodeSpec.lean that follows the Transformer
(`passTy`, `flatTy`, `unpassTy`, `unflatTy`, `fwdSet`, `flatVal`, `reachTy`, …) recurses at a struct, a pointer to a
struct and a slice of structs and falls through at every other field type (`isLeaf`).  Facts about them are proved
with the one induction principle of that shape, `ty_ind`, and each function's fall-through equation.  That an
`Outcome` is no panic (and no error) and holds a value with some property is said with `Holds`.
-/
import DialsModel.Model.DecodeSpec

namespace Dials.Decode

@[simp] theorem omap_err {α β} (f : α → β) (c : String) : omap f (.err c : Outcome α) = .err c := rfl
@[simp] theorem omap_panic {α β} (f : α → β) (c : String) : omap f (.panic c : Outcome α) = .panic c := rfl

theorem obind_ok_inv {α β} {x : Outcome α} {f : α → Outcome β} {b : β} (h : obind x f = .ok b) :
    ∃ a, x = .ok a ∧ f a = .ok b := by
  cases x with
  | ok a => exact ⟨a, rfl, h⟩
  | _ => cases h

theorem omap_ok_inv {α β} {x : Outcome α} {f : α → β} {b : β} (h : omap f x = .ok b) :
    ∃ a, x = .ok a ∧ b = f a := by
  cases x with
  | ok a => exact ⟨a, rfl, (Outcome.ok.inj h).symm⟩
  | _ => cases h

def Holds {α} (e : Prop) (P : α → Prop) : Outcome α → Prop
  | .ok a => P a
  | .err _ => e
  | .panic _ => False

theorem Holds.imp {α} {e : Prop} {P Q : α → Prop} (hP : ∀ a, P a → Q a) :
    ∀ {o : Outcome α}, Holds e P o → Holds e Q o
  | .ok a, h => hP a h
  | .err _, h | .panic _, h => h

theorem Holds.ok {α} {P : α → Prop} : ∀ {o : Outcome α}, Holds False P o → ∃ a, o = .ok a ∧ P a
  | .ok a, h => ⟨a, rfl, h⟩
  | .err _, h | .panic _, h => h.elim

theorem holds_omap {α β} {e : Prop} {P : β → Prop} {f : α → β} :
    ∀ {x : Outcome α}, Holds e P (omap f x) ↔ Holds e (fun a => P (f a)) x
  | .ok _ | .err _ | .panic _ => Iff.rfl

theorem holds_cons {β} {e : Prop} {P : β → Prop} {Q R : List β → Prop} (h : ∀ b bs, P b → Q bs → R (b :: bs)) :
    ∀ {x : Outcome β} {xs : Outcome (List β)}, Holds e P x → Holds e Q xs →
      Holds e R (obind x fun b => omap (b :: ·) xs)
  | .ok b, .ok bs, hb, hbs => h b bs hb hbs
  | .ok _, .err _, _, hxs | .ok _, .panic _, _, hxs => hxs
  | .err _, _, hx, _ | .panic _, _, hx, _ => hx

theorem holds_mapO {α β} {e : Prop} {P : β → Prop} {f : α → Outcome β} :
    ∀ {l : List α}, (∀ a ∈ l, Holds e P (f a)) → Holds e (fun bs => ∀ b ∈ bs, P b) (mapO f l)
  | [], _ => fun _ hb => nomatch hb
  | a :: _, h =>
    holds_cons (fun _ _ hb hbs => List.forall_mem_cons.2 ⟨hb, hbs⟩) (h a List.mem_cons_self)
      (holds_mapO fun a' ha' => h a' (List.mem_cons_of_mem _ ha'))

theorem mapO_map_ok {α β} (f : α → Outcome β) (g : β → α) :
    ∀ (l : List β), (∀ b ∈ l, f (g b) = .ok b) → mapO f (l.map g) = .ok l
  | [], _ => rfl
  | b :: r, h => by
    simp only [List.map, mapO, h b List.mem_cons_self, obind_ok,
      mapO_map_ok f g r fun b' hb' => h b' (List.mem_cons_of_mem _ hb'), omap_ok]

theorem copyTags_get (src new : String) (tg : Tags) (h : Tags.lookup tg new ≠ some "") :
    Tags.get (copyTags src new tg) new
      = if Tags.get tg new ≠ "" then Tags.get tg new else Tags.get tg src := by
  unfold copyTags Tags.get Tags.lookup at *
  cases hn : List.lookup new tg with
  | some w => simp [Facts.tagCopyKeeps, hn, show w ≠ "" from fun e => h (by rw [hn, e])]
  | none =>
    by_cases hs : (List.lookup src tg).getD "" = ""
    · simp [Facts.tagCopySkipsSrc, hs, hn]
    · simp [Facts.tagCopySkipsSrc, Facts.tagCopyKeeps, hs, hn, List.lookup_append]

/-- `[]time.Time` is a leaf although `time.Time` is a Go struct: the Transformer tests the element type for
    TextUnmarshaler before it recurses (repair of finding D34) -/
def isLeaf : Ty → Bool
  | .struct _ => false
  | .ptr (.struct _) => false
  | .slice (.struct _) => false
  | _ => true

theorem isLeaf_cases (t : Ty) :
    (∃ fs, t = .struct fs) ∨ (∃ fs, t = .ptr (.struct fs)) ∨ (∃ fs, t = .slice (.struct fs)) ∨
    isLeaf t = true := by
  cases t with
  | struct fs => exact .inl ⟨fs, rfl⟩
  | ptr e => cases e <;> first | exact .inr (.inr (.inr rfl)) | exact .inr (.inl ⟨_, rfl⟩)
  | slice e => cases e <;> first | exact .inr (.inr (.inr rfl)) | exact .inr (.inr (.inl ⟨_, rfl⟩))
  | _ => exact .inr (.inr (.inr rfl))

/-- in the shape that the fall-through equations (`passTy.eq_5`, `unpassTy.eq_9`, …) take as side conditions -/
theorem isLeaf_not (t : Ty) (h : isLeaf t = true) :
    (∀ fs, t = .struct fs → False) ∧ (∀ fs, t = .ptr (.struct fs) → False) ∧
    (∀ fs, t = .slice (.struct fs) → False) := by
  refine ⟨?_, ?_, ?_⟩ <;> (rintro fs rfl; cases h)

theorem innerFields_leaf (t : Ty) (h : isLeaf t = true) : innerFields t = none := by
  cases t with
  | struct => cases h
  | ptr e => cases e <;> first | rfl | cases h
  | _ => rfl

/-- `cons` also gets the statement for the fields of the struct that the field's type is or points to: the flatten
    pass hoists them -/
theorem ty_ind {motive : Ty → Prop} {motiveF : Fields → Prop}
    (struct : ∀ fs, motiveF fs → motive (.struct fs))
    (ptrStruct : ∀ fs, motiveF fs → motive (.ptr (.struct fs)))
    (sliceStruct : ∀ fs, motiveF fs → motive (.slice (.struct fs)))
    (leaf : ∀ t, isLeaf t = true → motive t)
    (nil : motiveF .nil)
    (cons : ∀ n a tg t r, motive t → (∀ ifs, innerFields t = some ifs → motiveF ifs) → motiveF r →
      motiveF (.cons n a tg t r)) :
    (∀ t, motive t) ∧ (∀ fs, motiveF fs) := by
  have lf : ∀ t, isLeaf t = true → (∀ fs, t ≠ .struct fs) →
      (motive t ∧ ∀ ifs, innerFields t = some ifs → motiveF ifs) ∧ ∀ fs, t = .struct fs → motiveF fs :=
    fun t h hs => ⟨⟨leaf t h, fun _ h' => by rw [innerFields_leaf t h] at h'; cases h'⟩, fun fs e => absurd e (hs fs)⟩
  have key : ∀ t, (motive t ∧ ∀ ifs, innerFields t = some ifs → motiveF ifs) ∧
      ∀ fs, t = .struct fs → motiveF fs := by
    intro t
    refine Ty.rec (motive_2 := motiveF)
      (motive_1 := fun t => (motive t ∧ ∀ ifs, innerFields t = some ifs → motiveF ifs) ∧
        ∀ fs, t = .struct fs → motiveF fs) ?_ ?_ ?_ ?_ ?_ ?_ ?_ ?_ ?_ ?_ ?_ t
    · exact fun _ => lf _ rfl nofun
    · exact lf _ rfl nofun
    · exact lf _ rfl nofun
    · exact fun _ => lf _ rfl nofun
    · intro e ih
      rcases isLeaf_cases (.slice e) with ⟨_, h⟩ | ⟨_, h⟩ | ⟨fs, h⟩ | h
      · cases h
      · cases h
      · cases h; exact ⟨⟨sliceStruct fs (ih.2 fs rfl), nofun⟩, nofun⟩
      · exact lf _ h nofun
    · exact fun _ _ => lf _ rfl nofun
    · exact lf _ rfl nofun
    · intro e ih
      rcases isLeaf_cases (.ptr e) with ⟨_, h⟩ | ⟨fs, h⟩ | ⟨_, h⟩ | h
      · cases h
      · cases h; exact ⟨⟨ptrStruct fs (ih.2 fs rfl), fun _ h' => by cases h'; exact ih.2 fs rfl⟩, nofun⟩
      · cases h
      · exact lf _ h nofun
    · intro fs ih; exact ⟨⟨struct fs ih, fun _ h => by cases h; exact ih⟩, fun _ h => by cases h; exact ih⟩
    · exact nil
    · intro n a tg t r iht ihr; exact cons n a tg t r iht.1.1 iht.1.2 ihr
  exact ⟨fun t => (key t).1.1, fun fs => (key (.struct fs)).2 fs rfl⟩

theorem fields_ind {motive : Fields → Prop} (nil : motive .nil)
    (cons : ∀ n a tg t r, motive r → motive (.cons n a tg t r)) : ∀ fs, motive fs :=
  (ty_ind (motive := fun _ => True) (fun _ _ => trivial) (fun _ _ => trivial) (fun _ _ => trivial)
    (fun _ _ => trivial) nil fun n a tg t r _ _ ih => cons n a tg t r ih).2

theorem kty_ind {motive : KTy → Prop} {motiveF : KFields → Prop}
    (scalar : ∀ k, motive (.scalar k)) (dur : motive .dur) (pdur : motive .pdur) (text : ∀ k, motive (.text k))
    (slice : ∀ e, motive e → motive (.slice e)) (map : ∀ e, motive e → motive (.map e)) (set : motive .set)
    (ptr : ∀ e, motive e → motive (.ptr e)) (struct : ∀ fs, motiveF fs → motive (.struct fs))
    (nil : motiveF .nil) (cons : ∀ key a t r, motive t → motiveF r → motiveF (.cons key a t r)) :
    (∀ t, motive t) ∧ (∀ fs, motiveF fs) :=
  ⟨fun t => KTy.rec (motive_1 := motive) (motive_2 := motiveF) scalar dur pdur text slice map set ptr struct nil cons t,
   fun fs => KFields.rec (motive_1 := motive) (motive_2 := motiveF) scalar dur pdur text slice map set ptr struct nil cons fs⟩

theorem kfields_ind {motive : KFields → Prop} (nil : motive .nil)
    (cons : ∀ key a t r, motive r → motive (.cons key a t r)) : ∀ fs, motive fs :=
  (kty_ind (motive := fun _ => True) (fun _ => trivial) trivial trivial (fun _ => trivial) (fun _ _ => trivial)
    (fun _ _ => trivial) trivial (fun _ _ => trivial) (fun _ _ => trivial) nil
    fun key a t r _ ih => cons key a t r ih).2

theorem passTy_leaf (P : Pass) (t : Ty) (h : isLeaf t = true) : passTy P t = P.leaf t := by
  obtain ⟨h1, h2, h3⟩ := isLeaf_not t h
  by_cases h4 : t = .slice (.text .time)
  · subst h4; rfl
  · exact passTy.eq_5 P t h1 h2 h3 h4

theorem flatTy_leaf (t : Ty) (h : isLeaf t = true) : flatTy t = t := by
  obtain ⟨h1, h2, h3⟩ := isLeaf_not t h
  by_cases h4 : t = .slice (.text .time)
  · subst h4; rfl
  · exact flatTy.eq_5 t h1 h2 h3 h4

theorem reachTy_leaf (fmt : Fmt) (t : Ty) (h : isLeaf t = true) :
    reachTy fmt t = true ↔ t = .set ∨ plainTy t = true := by
  obtain ⟨h1, h2, h3⟩ := isLeaf_not t h
  by_cases h5 : t = .set
  · subst h5; exact ⟨fun _ => .inl rfl, fun _ => rfl⟩
  · rw [reachTy.eq_5 fmt t h1 h2 h3 h5, or_iff_right h5]

theorem unpassTy_leaf (leaf : Ty → Val → Outcome Val) (t : Ty) (x : Val) (h : isLeaf t = true) :
    unpassTy leaf t x = leaf t x := by
  obtain ⟨h1, h2, h3⟩ := isLeaf_not t h
  exact unpassTy.eq_9 leaf t x h1 h2 h3 (fun fs _ e _ => h1 fs e) (fun fs e _ => h2 fs e)
    (fun fs _ e _ => h2 fs e) (fun fs e _ => h3 fs e) (fun fs _ e _ => h3 fs e)

theorem fwdSet_leaf (t : Ty) (x : Val) (h : isLeaf t = true) (hs : t ≠ .set) : fwdSet t x = x := by
  obtain ⟨h1, h2, h3⟩ := isLeaf_not t h
  exact fwdSet.eq_5 t x hs (fun fs _ e _ => h1 fs e) (fun fs _ e _ => h2 fs e) (fun fs _ e _ => h3 fs e)

theorem flatVal_leaf (t : Ty) (x : Val) (h : isLeaf t = true) : flatVal t x = x := by
  obtain ⟨h1, h2, h3⟩ := isLeaf_not t h
  exact flatVal.eq_4 t x (fun fs _ e _ => h1 fs e) (fun fs _ e _ => h2 fs e) (fun fs _ e _ => h3 fs e)

theorem unflatTy_leaf (t : Ty) (x : Val) (h : isLeaf t = true) : unflatTy t x = .ok x := by
  obtain ⟨h1, h2, h3⟩ := isLeaf_not t h
  exact unflatTy.eq_9 t x h1 h2 h3 (fun fs _ e _ => h1 fs e) (fun fs e _ => h2 fs e)
    (fun fs _ e _ => h2 fs e) (fun fs e _ => h3 fs e) (fun fs _ e _ => h3 fs e)

theorem plain_kv (keyf keyf' : Tags → String) (sub ss ss' : Bool) :
    ∀ t, plainTy t = true → kvTy keyf sub ss t = kvTy keyf' sub ss' t
  | .slice e, h | .map e, h | .ptr e, h => by simp only [kvTy, plain_kv keyf keyf' sub ss ss' e h]
  | .scalar _, _ | .dur, _ | .pdur, _ | .text _, _ => rfl
  | .struct _, h | .set, h => by cases h

theorem plain_sub (keyf : Tags → String) (ss : Bool) :
    ∀ t, plainTy t = true → plainTy (subTy t) = true ∧ kvTy keyf false ss (subTy t) = kvTy keyf true ss t
  | .slice e, h | .map e, h | .ptr e, h => by
    simp only [subTy, plainTy, kvTy, plain_sub keyf ss e h, and_self]
  | .scalar _, _ | .dur, _ | .pdur, _ | .text _, _ => ⟨rfl, rfl⟩
  | .struct _, h | .set, h => by cases h

theorem isLeaf_subTy (t : Ty) (h : isLeaf t = true) : isLeaf (subTy t) = true := by
  cases t with
  | ptr e => cases e <;> first | rfl | cases h
  | slice e => cases e <;> first | rfl | cases h
  | struct => cases h
  | _ => rfl

theorem kv_pass (fmt : Fmt) (P : Pass) (keyf keyf' : Tags → String) (sub ss sub' ss' : Bool)
    (hk : ∀ tg, Tags.lookup tg fmt.libTag ≠ some "" → keyf (P.tags tg) = keyf' tg)
    (hs : kvTy keyf sub ss (P.leaf .set) = kvTy keyf' sub' ss' .set)
    (hp : ∀ t, plainTy t = true → kvTy keyf sub ss (P.leaf t) = kvTy keyf' sub' ss' t) :
    (∀ t, reachTy fmt t = true → kvTy keyf sub ss (passTy P t) = kvTy keyf' sub' ss' t) ∧
    (∀ fs, reachFields fmt fs = true → kvFields keyf sub ss (passFields P fs) = kvFields keyf' sub' ss' fs) := by
  apply ty_ind
  · intro fs ih h; simp only [passTy, kvTy, ih h]
  · intro fs ih h; simp only [passTy, kvTy, ih h]
  · intro fs ih h; simp only [passTy, kvTy, ih h]
  · intro t hl h
    rw [passTy_leaf P t hl]
    exact ((reachTy_leaf fmt t hl).1 h).elim (fun e => e ▸ hs) (hp t)
  · intro _; rfl
  · intro n a tg t r iht _ ihr h
    simp only [reachFields, Bool.and_eq_true, bne_iff_ne, ne_eq] at h
    simp only [passFields, kvFields, iht h.1.2, ihr h.2, hk tg h.1.1]

theorem reach_pass (fmt : Fmt) (P : Pass) (hk : ∀ tg, P.tags tg = tg)
    (hs : reachTy fmt (P.leaf .set) = true)
    (hp : ∀ t, isLeaf t = true → plainTy t = true → isLeaf (P.leaf t) = true ∧ plainTy (P.leaf t) = true) :
    (∀ t, reachTy fmt t = true → reachTy fmt (passTy P t) = true) ∧
    (∀ fs, reachFields fmt fs = true → reachFields fmt (passFields P fs) = true) := by
  apply ty_ind
  · intro fs ih h; exact ih h
  · intro fs ih h; exact ih h
  · intro fs ih h; exact ih h
  · intro t hl h
    rw [passTy_leaf P t hl]
    rcases (reachTy_leaf fmt t hl).1 h with rfl | h
    · exact hs
    · exact (reachTy_leaf fmt _ (hp t hl h).1).2 (.inr (hp t hl h).2)
  · intro _; rfl
  · intro n a tg t r iht _ ihr h
    simp only [reachFields, Bool.and_eq_true] at h
    simp only [passFields, reachFields, hk, h.1.1, iht h.1.2, ihr h.2, Bool.and_self]

theorem setSliceLeaf_plain (t : Ty) (h : plainTy t = true) : setSliceLeaf t = t := by
  cases t <;> first | rfl | cases h

theorem kv_setSlice (fmt : Fmt) (keyf : Tags → String) (sub : Bool) (T : Ty) (h : reachTy fmt T = true) :
    reachTy fmt (passTy Pass.setSlice T) = true ∧
    kvTy keyf sub false (passTy Pass.setSlice T) = kvTy keyf sub true T :=
  ⟨(reach_pass fmt Pass.setSlice (fun _ => rfl) rfl
      fun t hl hp => by rw [show Pass.setSlice.leaf t = t from setSliceLeaf_plain t hp]; exact ⟨hl, hp⟩).1 T h,
   (kv_pass fmt Pass.setSlice keyf keyf sub false sub true (fun _ _ => rfl) rfl
      fun t hp => by
        rw [show Pass.setSlice.leaf t = t from setSliceLeaf_plain t hp]
        exact plain_kv keyf keyf sub false true t hp).1 T h⟩

theorem kv_durSub (fmt : Fmt) (keyf : Tags → String) (ss : Bool) (T : Ty) (h : reachTy fmt T = true) :
    reachTy fmt (passTy Pass.durSub T) = true ∧
    kvTy keyf false ss (passTy Pass.durSub T) = kvTy keyf true ss T :=
  ⟨(reach_pass fmt Pass.durSub (fun _ => rfl) rfl
      fun t hl hp => ⟨isLeaf_subTy t hl, (plain_sub keyf ss t hp).1⟩).1 T h,
   (kv_pass fmt Pass.durSub keyf keyf false ss true ss (fun _ _ => rfl) rfl
      fun t hp => (plain_sub keyf ss t hp).2).1 T h⟩

theorem kv_tagCopy (fmt : Fmt) (T : Ty) (h : reachTy fmt T = true) :
    view fmt.libTag (passTy (Pass.tagCopy "dials" fmt.libTag) T) = kvTy (keyRule fmt) false false T :=
  (kv_pass fmt (Pass.tagCopy "dials" fmt.libTag) (fun tg => Tags.get tg fmt.libTag) (keyRule fmt) false false false false
    (copyTags_get "dials" fmt.libTag) rfl fun t hp => plain_kv _ _ false false false t hp).1 T h

theorem chainOf_false (fmt : Fmt) : chainOf fmt false =
    if fmt.subs then [.durSub, .tagCopy "dials" fmt.libTag] else [.tagCopy "dials" fmt.libTag] := by
  cases fmt <;> rfl

theorem chain_step (fmt : Fmt) (T : Ty) (h : reachTy fmt T = true) :
    view fmt.libTag (translate (chainOf fmt false) T) = kvTy (keyRule fmt) fmt.subs false T := by
  rw [chainOf_false]
  cases fmt.subs
  · exact kv_tagCopy fmt T h
  · exact (kv_tagCopy fmt _ (kv_durSub fmt (keyRule fmt) false T h).1).trans (kv_durSub fmt _ false T h).2

theorem key_path (fmt : Fmt) (wrap : Bool) (T : Ty) (hT : reachTy fmt T = true) :
    view fmt.libTag (translate (chainOf fmt false) (translate (wrapChain wrap) T)) = kview fmt wrap T := by
  cases wrap
  · exact chain_step fmt T hT
  · exact (chain_step fmt _ (kv_setSlice fmt (keyRule fmt) fmt.subs T hT).1).trans (kv_setSlice fmt _ _ T hT).2

theorem checksErr_all (fmt : Fmt) : checksErr fmt = true := by cases fmt <;> rfl

theorem decode_eq (fmt : Fmt) (wrap : Bool) (L : Lib) (T : Ty) (d : Doc) (hT : reachTy fmt T = true) :
    decode fmt false wrap L T d
      = obind (L.fill (kview fmt wrap T) d) fun v => reverse (wrapChain wrap) T v := by
  unfold decode
  simp only [key_path fmt wrap T hT, checksErr_all, if_true]
  cases L.fill (kview fmt wrap T) d with
  | ok v =>
    rw [chainOf_false]
    cases fmt.subs <;> rfl
  | err c => simp [Facts.wrapChecksInnerErr]
  | panic c => rfl

theorem flatten_noop :
    (∀ t, noAnon t = true → flatTy t = t) ∧ (∀ fs, noAnonFields fs = true → flatFields fs = fs) := by
  apply ty_ind
  · intro fs ih h; simp only [flatTy, ih h]
  · intro fs ih h; simp only [flatTy, ih h]
  · intro fs ih h; simp only [flatTy, ih h]
  · intro t hl _; exact flatTy_leaf t hl
  · intro _; rfl
  · intro n a tg t r iht _ ihr h
    simp only [noAnonFields, Bool.and_eq_true, Bool.not_eq_true'] at h
    obtain ⟨⟨rfl, h2⟩, h3⟩ := h
    simp [flatFields, iht h2, ihr h3]

theorem refFields_eq_fillFields (E : Ext) (fmt : Fmt) (kvs : List (String × Doc)) :
    ∀ fs, keysNonEmpty fs = true → refFields E fmt fs kvs = fillFields (refFill E fmt) fs kvs := by
  apply kfields_ind
  · intro _; rfl
  · intro key a t r ih h
    simp only [keysNonEmpty, Bool.and_eq_true, bne_iff_ne, ne_eq] at h
    rw [refFields.eq_def]
    simp only [fillFields, fillField, ih h.2, if_neg h.1]

theorem zero_shape : (∀ K, shapeK K (zeroK K) = true) ∧ (∀ fs, shapesK fs (zerosK fs) = true) := by
  apply kty_ind
  · intro k; cases k <;> rfl
  · rfl
  · rfl
  · intro k; cases k <;> rfl
  · intro _ _; rfl
  · intro _ _; rfl
  · rfl
  · intro _ _; rfl
  · intro fs ih; exact ih
  · rfl
  · intro key a t r iht ihr; simp only [zerosK, shapesK, iht, ihr, Bool.and_self]

theorem shapeK_list (e : KTy) (vs : List Val) :
    shapeK (.slice e) (.list vs) = true ↔ ∀ v ∈ vs, shapeK e v = true := List.all_eq_true

theorem scalarFill_holds (fmt : Fmt) (k : SK) (s : Scalar) :
    Holds True (shapeK (.scalar k) · = true) ((scalarFill fmt k s).getD (.err decErr)) := by
  cases k <;> cases s <;> simp only [scalarFill]
  all_goals repeat' split
  all_goals first | trivial | rfl

theorem durFill_holds (E : Ext) (fmt : Fmt) (d : Doc) : Holds True (shapeK .dur · = true) (durFill E fmt d) := by
  unfold durFill
  repeat' split
  all_goals first | trivial | rfl

theorem pdur_holds (E : Ext) (d : Doc) : Holds True (shapeK .pdur · = true) (pdurUnmarshal E d) := by
  unfold pdurUnmarshal
  repeat' split
  all_goals first | trivial | rfl

theorem textFill_holds (E : Ext) (fmt : Fmt) (k : TK) (d : Doc) :
    Holds True (shapeK (.text k) · = true) (textFill E fmt k d) := by
  unfold textFill
  repeat' split
  all_goals first | trivial | rfl

theorem refFill_holds (E : Ext) (fmt : Fmt) :
    (∀ K d, Holds True (shapeK K · = true) (refFill E fmt K d)) ∧
    (∀ fs kvs, Holds True (shapesK fs · = true) (refFields E fmt fs kvs)) := by
  apply kty_ind
  · intro k d
    cases d with
    | sc s => exact scalarFill_holds fmt k s
    | _ => trivial
  · exact durFill_holds E fmt
  · exact pdur_holds E
  · exact textFill_holds E fmt
  · intro e ih d
    cases d with
    | list ds =>
      simp only [refFill]
      split
      · trivial
      · exact holds_omap.2 ((holds_mapO fun a _ => ih a).imp fun bs h => (shapeK_list e bs).2 h)
    | _ => trivial
  · intro e ih d
    cases d with
    | map kvs =>
      exact holds_omap.2 ((holds_mapO (P := fun kv : String × Val => shapeK e kv.2 = true)
        fun kd _ => holds_omap.2 (ih kd.2)).imp fun bs h => List.all_eq_true.2 h)
    | _ => trivial
  · intro d; trivial
  · intro e ih d; exact holds_omap.2 (ih d)
  · intro fs ih d
    cases d with
    | map kvs => exact holds_omap.2 (ih kvs)
    | _ => trivial
  · intro _; rfl
  · intro key a t r iht ihr kvs
    rw [refFields.eq_def]
    refine holds_cons (P := (shapeK t · = true))
      (fun v ws hv hws => by simp only [shapesK, hv, hws, Bool.and_self]) ?_ (ihr kvs)
    · split
      · split
        · split
          · exact iht (.map kvs)
          · split
            · exact holds_omap.2 (holds_omap.1 (holds_omap.1 (iht (.map kvs))))
            · rfl
          · exact zero_shape.1 t
        · exact zero_shape.1 t
      · split
        · exact zero_shape.1 t
        · exact iht _

theorem refFill_contract (E : Ext) (fmt : Fmt) : FillContract E fmt (refFill E fmt) where
  struct_map fs kvs h _ := congrArg (omap Val.struct) (refFields_eq_fillFields E fmt kvs fs h)
  struct_scalar _ _ := rfl
  struct_list _ _ := rfl
  ptr _ _ := rfl
  slice_list e ds h := by simp only [refFill, h, Bool.false_eq_true, if_false]
  slice_scalar _ _ := rfl
  slice_map _ _ := rfl
  map_map _ _ _ := rfl
  map_scalar _ _ := rfl
  map_list _ _ := rfl
  scalar k s r h := by simp only [refFill, h, Option.getD_some]
  scalar_list _ _ := rfl
  scalar_map _ _ := rfl
  dur_scalar_int _ := rfl
  dur_scalar_str _ := rfl
  dur_list _ := rfl
  dur_map _ := rfl
  pdur _ _ := rfl
  text_str _ _ := rfl
  text_time _ _ := rfl
  text_list _ _ := rfl
  shape K d v h := by have := (refFill_holds E fmt).1 K d; rwa [h] at this
  total K d c h := by have := (refFill_holds E fmt).1 K d; rwa [h] at this

theorem renderFields_nil (E : Ext) (fmt : Fmt) (intDur : Int → Bool) (key : String) (a : Bool) (t : KTy)
    (r : KFields) (vs : List Val) :
    renderFields E fmt intDur (.cons key a t r) (.nil :: vs) = renderFields E fmt intDur r vs := rfl

theorem renderFields_cons (E : Ext) (fmt : Fmt) (intDur : Int → Bool) (key : String) (a : Bool) (t : KTy)
    (r : KFields) (v : Val) (vs : List Val) (hv : v ≠ .nil) :
    renderFields E fmt intDur (.cons key a t r) (v :: vs)
      = (key, renderK E fmt intDur t v) :: renderFields E fmt intDur r vs :=
  renderFields.eq_4 E fmt intDur key a t r v vs hv

theorem wtFields_nil (E : Ext) (fmt : Fmt) (key : String) (a : Bool) (t : KTy) (r : KFields) (vs : List Val) :
    wtFields E fmt (.cons key a t r) (.nil :: vs) = (nilableK t && wtFields E fmt r vs) := rfl

theorem wtFields_cons (E : Ext) (fmt : Fmt) (key : String) (a : Bool) (t : KTy) (r : KFields) (v : Val)
    (vs : List Val) (hv : v ≠ .nil) :
    wtFields E fmt (.cons key a t r) (v :: vs) = (wt E fmt t v && wtFields E fmt r vs) :=
  wtFields.eq_3 E fmt key a t r v vs hv

theorem lookupD_none (k : String) : ∀ (kvs : List (String × Doc)), k ∉ docKeys kvs → lookupD k kvs = none
  | [], _ => rfl
  | (k', d) :: r, h => by
    simp only [docKeys, List.mem_cons, not_or] at h
    simp only [lookupD, if_neg (Ne.symm h.1), lookupD_none k r h.2]

theorem render_keys_sub (E : Ext) (fmt : Fmt) (intDur : Int → Bool) (k : String) :
    ∀ fs vs, k ∈ docKeys (renderFields E fmt intDur fs vs) → k ∈ keysOf fs := by
  apply kfields_ind
  · intro vs h; cases h
  · intro key a t r ih vs h
    cases vs with
    | nil => cases h
    | cons v vs =>
      by_cases hv : v = .nil
      · subst hv; exact List.mem_cons_of_mem _ (ih vs h)
      · rw [renderFields_cons _ _ _ _ _ _ _ _ _ hv] at h
        exact (List.mem_cons.1 h).elim (fun e => e ▸ List.mem_cons_self) fun h => List.mem_cons_of_mem _ (ih vs h)

theorem nodupS_cons (k : String) (r : List String) : nodupS (k :: r) = true ↔ k ∉ r ∧ nodupS r = true := by
  simp [nodupS]

theorem render_nodup (E : Ext) (fmt : Fmt) (intDur : Int → Bool) :
    ∀ fs vs, nodupS (keysOf fs) = true → nodupKeys (renderFields E fmt intDur fs vs) = true := by
  apply kfields_ind
  · intro vs _; rfl
  · intro key a t r ih vs h
    rw [keysOf, nodupS_cons] at h
    cases vs with
    | nil => rfl
    | cons v vs =>
      by_cases hv : v = .nil
      · subst hv; exact ih vs h.2
      · rw [renderFields_cons _ _ _ _ _ _ _ _ _ hv]
        exact (nodupS_cons _ _).2 ⟨fun hm => h.1 (render_keys_sub E fmt intDur key r vs hm), ih vs h.2⟩

theorem fillFields_skip (fill : KTy → Doc → Outcome Val) (key : String) (d : Doc) (kvs : List (String × Doc)) :
    ∀ fs, key ∉ keysOf fs → fillFields fill fs ((key, d) :: kvs) = fillFields fill fs kvs := by
  apply kfields_ind
  · intro _; rfl
  · intro key' a t r ih h
    simp only [keysOf, List.mem_cons, not_or] at h
    simp only [fillFields, fillField, lookupD, if_neg h.1, ih h.2]

theorem docKeys_map {α} (g : String × α → Doc) :
    ∀ (l : List (String × α)), docKeys (l.map fun kv => (kv.1, g kv)) = l.map (·.1)
  | [] => rfl
  | _ :: r => congrArg (_ :: ·) (docKeys_map g r)

theorem zeroK_nilable (t : KTy) (h : nilableK t = true) : zeroK t = .nil := by
  cases t with
  | text k => cases k <;> first | rfl | cases h
  | scalar k => cases h
  | _ => first | rfl | cases h

theorem fill_render (E : Ext) (fmt : Fmt) (fill : KTy → Doc → Outcome Val) (hC : FillContract E fmt fill)
    (intDur : Int → Bool) :
    (∀ K, keysOK K = true → ∀ x, wt E fmt K x = true → fill K (renderK E fmt intDur K x) = .ok x) ∧
    (∀ fs, fieldsKeysOK fs = true → nodupS (keysOf fs) = true → ∀ vs, wtFields E fmt fs vs = true →
      fillFields fill fs (renderFields E fmt intDur fs vs) = .ok vs) := by
  apply kty_ind
  · intro k _ x hx
    cases k <;> cases x <;> try contradiction
    · exact hC.scalar _ _ _ rfl
    · simp only [wt, Bool.and_eq_true, Bool.not_eq_true'] at hx
      exact hC.scalar _ _ _ (by simp [scalarFill, hx.1, hx.2])
    · exact hC.scalar _ _ _ (by simp only [scalarFill, show inRange _ _ = true from hx, if_true])
    · exact hC.scalar _ _ _ rfl
    · exact hC.scalar _ _ _ rfl
  · intro _ x hx
    cases x <;> try contradiction
    simp only [wt, Bool.and_eq_true, Bool.not_eq_true', beq_iff_eq] at hx
    obtain ⟨hs, hx⟩ := hx
    rw [renderK, hC.dur_scalar_str]
    cases fmt <;> try contradiction
    all_goals simp only [durFill, hx]
  · intro _ x hx
    cases x <;> try contradiction
    rename_i n
    simp only [wt, Bool.and_eq_true, beq_iff_eq] at hx
    rw [renderK, hC.pdur hx.1.1]
    cases intDur n <;> simp [pdurUnmarshal, Facts.pdurAcceptsString, Facts.pdurAcceptsNumber, hx]
  · intro k _ x hx
    cases k <;> cases x <;> try contradiction
    · simp only [wt] at hx
      simp only [renderK]
      split
      · rename_i h; subst h
        rw [hC.text_time]; simp [textFill, beq_iff_eq.1 hx]
      · rename_i h
        rw [if_neg h, beq_iff_eq] at hx
        rw [hC.text_str]; simp [textFill, hx, h]
    · rw [renderK, hC.text_str]; simp [textFill, show E.parseText .ip _ = _ from beq_iff_eq.1 hx]
  · intro e ih hK x hx
    cases x <;> try contradiction
    simp only [wt, Bool.and_eq_true, Bool.not_eq_true', List.all_eq_true] at hx
    rw [renderK, hC.slice_list _ _ (by rw [List.length_map]; exact hx.1),
      mapO_map_ok _ _ _ fun b hb => ih hK b (hx.2 b hb)]
    rfl
  · intro e ih hK x hx
    cases x <;> try contradiction
    rename_i kvs
    simp only [wt, Bool.and_eq_true, List.all_eq_true] at hx
    rw [renderK, hC.map_map _ _ (by rw [nodupKeys, docKeys_map]; exact hx.1), fillMap,
      mapO_map_ok _ (fun kv : String × Val => (kv.1, renderK E fmt intDur e kv.2)) kvs
        fun b hb => by rw [ih hK b.2 (hx.2 b hb)]; rfl]
    rfl
  · intro _ x hx; cases x <;> contradiction
  · intro e ih hK x hx
    cases x <;> try contradiction
    rw [renderK, hC.ptr, ih hK _ hx]
    rfl
  · intro fs ih hK x hx
    simp only [keysOK, Bool.and_eq_true] at hK
    cases x <;> try contradiction
    rename_i vs
    rw [renderK, hC.struct_map _ _ hK.1.1 (render_nodup E fmt intDur fs vs hK.1.2), ih hK.2 hK.1.2 vs hx]
    rfl
  · intro _ _ vs hw
    cases vs with
    | nil => rfl
    | cons => cases hw
  · intro key a t r iht ihr hK hnd vs hw
    simp only [fieldsKeysOK, Bool.and_eq_true] at hK
    rw [keysOf, nodupS_cons] at hnd
    cases vs with
    | nil => cases hw
    | cons v vs =>
      have hr := ihr hK.2 hnd.2 vs
      by_cases hv : v = .nil
      · subst hv
        rw [wtFields_nil, Bool.and_eq_true] at hw
        simp only [renderFields_nil, fillFields, fillField, zeroK_nilable t hw.1, hr hw.2, obind_ok, omap_ok,
          lookupD_none key _ fun hm => hnd.1 (render_keys_sub E fmt intDur key r vs hm)]
      · rw [wtFields_cons _ _ _ _ _ _ _ _ hv, Bool.and_eq_true] at hw
        rw [renderFields_cons _ _ _ _ _ _ _ _ _ hv]
        simp only [fillFields, fillField, lookupD, if_true, iht hK.1 v hw.1, obind_ok,
          fillFields_skip fill key _ _ r hnd.1, hr hw.2, omap_ok]

theorem dedupe_nodup : ∀ (ks : List String), nodupS ks = true → dedupe ks = ks
  | [], _ => rfl
  | k :: r, h => by
    rw [nodupS_cons, ← List.contains_iff_mem, Bool.not_eq_true] at h
    simp only [dedupe, h.1, Bool.false_eq_true, if_false, dedupe_nodup r h.2]

theorem strsOf_map : ∀ (ks : List String), strsOf (ks.map Val.str) = some ks
  | [] => rfl
  | k :: r => by simp only [List.map, strsOf, strsOf_map r, Option.map_some]

theorem unSetLeaf_other (t : Ty) (v : Val) (hs : t ≠ .set) : unSetLeaf t v = .ok v := by
  cases t <;> first | rfl | exact absurd rfl hs

theorem set_roundtrip :
    (∀ t, ∀ x, setsOK t x = true → unpassTy unSetLeaf t (fwdSet t x) = .ok x) ∧
    (∀ fs, ∀ vs, setsOKFields fs vs = true → unpassFields unSetLeaf fs (fwdSets fs vs) = .ok vs) := by
  apply ty_ind
  · intro fs ih x h
    cases x <;> try contradiction
    simp only [fwdSet, unpassTy, ih _ h, omap_ok]
  · intro fs ih x h
    cases x <;> try contradiction
    · rfl
    · rename_i v
      cases v <;> try contradiction
      simp only [fwdSet, unpassTy, ih _ h, omap_ok]
  · intro fs ih x h
    cases x <;> try contradiction
    · rfl
    · rename_i vs
      simp only [setsOK, List.all_eq_true] at h
      simp only [fwdSet, unpassTy]
      rw [mapO_map_ok]
      · rfl
      · intro v hv
        have := h v hv
        cases v <;> try contradiction
        simp only [ih _ this, omap_ok]
  · intro t hl x h
    by_cases hs : t = .set
    · subst hs
      cases x <;> try contradiction
      · rfl
      · simp only [fwdSet, setAsList, unpassTy, unSetLeaf, strsOf_map, dedupe_nodup _ h]
    · rw [fwdSet_leaf t x hl hs, unpassTy_leaf _ t x hl, unSetLeaf_other t x hs]
  · intro vs h
    cases vs with
    | nil => rfl
    | cons => cases h
  · intro n a tg t r iht _ ihr vs h
    cases vs with
    | nil => cases h
    | cons v vs =>
      simp only [setsOKFields, Bool.and_eq_true] at h
      simp only [fwdSets, unpassFields, iht v h.1, ihr vs h.2, obind_ok, omap_ok]

mutual
theorem shape_indep (keyf keyf' : Tags → String) (sub sub' ss : Bool) :
    ∀ t v, shapeK (kvTy keyf sub ss t) v = shapeK (kvTy keyf' sub' ss t) v
  | .scalar _, _ | .pdur, _ | .text _, _ | .set, _ => rfl
  | .dur, v => by cases sub <;> cases sub' <;> first | rfl | (cases v <;> rfl)
  | .slice e, v => by
    cases v <;> first | rfl | exact congrArg (List.all _) (funext (shape_indep keyf keyf' sub sub' ss e))
  | .map e, v => by
    cases v <;> first | rfl | simp only [kvTy, shapeK, shape_indep keyf keyf' sub sub' ss e]
  | .ptr e, v => by cases v <;> first | rfl | exact shape_indep keyf keyf' sub sub' ss e _
  | .struct fs, v => by cases v <;> first | rfl | exact shapes_indep keyf keyf' sub sub' ss fs _
theorem shapes_indep (keyf keyf' : Tags → String) (sub sub' ss : Bool) :
    ∀ fs vs, shapesK (kvFields keyf sub ss fs) vs = shapesK (kvFields keyf' sub' ss fs) vs
  | .nil, _ => rfl
  | .cons _ _ _ _ _, [] => rfl
  | .cons _ _ _ t r, v :: vs => by
    simp only [kvFields, shapesK, shape_indep keyf keyf' sub sub' ss t v, shapes_indep keyf keyf' sub sub' ss r vs]
end

theorem strsOf_of_shape : ∀ (vs : List Val), (∀ v ∈ vs, shapeK (.scalar .str) v = true) → ∃ ks, strsOf vs = some ks
  | [], _ => ⟨[], rfl⟩
  | v :: r, h => by
    obtain ⟨ks, hks⟩ := strsOf_of_shape r fun v' hv' => h v' (List.mem_cons_of_mem _ hv')
    have hv := h v List.mem_cons_self
    cases v <;> try contradiction
    exact ⟨_ :: ks, by rw [strsOf, hks]; rfl⟩

theorem unwrap_shape (fmt : Fmt) (keyf : Tags → String) (sub : Bool) :
    (∀ t, reachTy fmt t = true → ∀ v, shapeK (kvTy keyf sub true t) v = true →
      Holds False (shapeK (kvTy keyf sub false t) · = true) (unpassTy unSetLeaf t v)) ∧
    (∀ fs, reachFields fmt fs = true → ∀ vs, shapesK (kvFields keyf sub true fs) vs = true →
      Holds False (shapesK (kvFields keyf sub false fs) · = true) (unpassFields unSetLeaf fs vs)) := by
  apply ty_ind
  · intro fs ih hr v hv
    cases v <;> try contradiction
    exact holds_omap.2 (ih hr _ hv)
  · intro fs ih hr v hv
    cases v <;> try contradiction
    · rfl
    · rename_i v'
      cases v' <;> try contradiction
      exact holds_omap.2 (ih hr _ hv)
  · intro fs ih hr v hv
    cases v <;> try contradiction
    · rfl
    · rename_i vs
      refine holds_omap.2 ((holds_mapO fun a ha => ?_).imp fun bs h => (shapeK_list _ bs).2 h)
      have := (shapeK_list _ vs).1 hv a ha
      cases a <;> try contradiction
      exact holds_omap.2 (ih hr _ this)
  · intro t hl hr v hv
    rw [unpassTy_leaf _ t v hl]
    rcases (reachTy_leaf fmt t hl).1 hr with rfl | hp
    · cases v <;> try contradiction
      · rfl
      · rename_i vs
        obtain ⟨ks, hks⟩ := strsOf_of_shape vs ((shapeK_list _ vs).1 hv)
        simp only [unSetLeaf, hks]
        rfl
    · rw [unSetLeaf_other t v (by rintro rfl; cases hp), ← plain_kv keyf keyf sub true false t hp]
      exact hv
  · intro _ vs hv
    cases vs with
    | nil => rfl
    | cons => cases hv
  · intro n a tg t r iht _ ihr hr vs hv
    simp only [reachFields, Bool.and_eq_true] at hr
    cases vs with
    | nil => cases hv
    | cons v vs =>
      simp only [kvFields, shapesK, Bool.and_eq_true] at hv
      exact holds_cons (fun w ws hw hws => by simp only [kvFields, shapesK, hw, hws, Bool.and_self])
        (iht hr.1.2 v hv.1) (ihr hr.2 vs hv.2)

theorem reverse_shape (fmt : Fmt) (wrap : Bool) (T : Ty) (v : Val) (hr : reachTy fmt T = true)
    (hv : shapeK (kview fmt wrap T) v = true) :
    Holds False (shape T · = true) (reverse (wrapChain wrap) T v) := by
  have hi := fun w => shape_indep (keyRule fmt) (fun _ => "") fmt.subs false false T w
  cases wrap
  · exact (hi v).symm.trans hv
  · exact ((unwrap_shape fmt (keyRule fmt) fmt.subs).1 T hr v hv).imp fun w hw => (hi w).symm.trans hw

theorem fillFields_get (fill : KTy → Doc → Outcome Val) (keyf : Tags → String) (sub ss : Bool)
    (kvs : List (String × Doc)) :
    ∀ fs, ∀ (ws : List Val) (i : Nat) (tg : Tags) (t : Ty),
      fillFields fill (kvFields keyf sub ss fs) kvs = .ok ws → Fields.get? fs i = some (tg, t) →
      ∃ w, ws[i]? = some w ∧ fillField fill (keyf tg) (kvTy keyf sub ss t) kvs = .ok w := by
  apply fields_ind
  · intro ws i tg t _ hf; cases hf
  · intro n a tg' t' r ih ws i tg t h hf
    obtain ⟨w, hw, h⟩ := obind_ok_inv h
    obtain ⟨ws', hws', rfl⟩ := omap_ok_inv h
    cases i with
    | zero => cases hf; exact ⟨w, rfl, hw⟩
    | succ j => exact ih ws' j tg t hws' hf

theorem unpassFields_get (leaf : Ty → Val → Outcome Val) :
    ∀ fs, ∀ (ws vs : List Val) (i : Nat) (tg : Tags) (t : Ty) (w : Val),
      unpassFields leaf fs ws = .ok vs → Fields.get? fs i = some (tg, t) → ws[i]? = some w →
      ∃ v, vs[i]? = some v ∧ unpassTy leaf t w = .ok v := by
  apply fields_ind
  · intro ws vs i tg t w _ hf; cases hf
  · intro n a tg' t' r ih ws vs i tg t w h hf hw
    cases ws with
    | nil => cases hw
    | cons w0 ws =>
      obtain ⟨v0, hv0, h⟩ := obind_ok_inv h
      obtain ⟨vs', hvs', rfl⟩ := omap_ok_inv h
      cases i with
      | zero => cases hf; cases hw; exact ⟨v0, rfl, hv0⟩
      | succ j => exact ih ws vs' j tg t w hvs' hf hw

theorem nilable_kv (keyf : Tags → String) (sub ss : Bool) (t : Ty) (h : nilableTy t = true) :
    nilableK (kvTy keyf sub ss t) = true := by
  cases t with
  | text k => cases k <;> first | rfl | cases h
  | set => cases ss <;> rfl
  | _ => first | rfl | cases h

theorem unpass_nil (t : Ty) (h : nilableTy t = true) : unpassTy unSetLeaf t .nil = .ok .nil := by
  cases t with
  | ptr e => cases e <;> rfl
  | slice e => cases e <;> rfl
  | text k => cases k <;> first | rfl | cases h
  | _ => first | rfl | cases h

theorem decode_struct (E : Ext) (fmt : Fmt) (wrap : Bool) (L : Lib) (hC : FillContract E fmt L.fill)
    (fs : Fields) (kvs : List (String × Doc))
    (hT : supported fmt wrap (.struct fs) = true) (hk : nodupKeys kvs = true) :
    decode fmt false wrap L (.struct fs) (.map kvs)
      = obind (omap .struct (fillFields L.fill (kvFields (keyRule fmt) fmt.subs wrap fs) kvs))
          fun v => reverse (wrapChain wrap) (.struct fs) v := by
  simp only [supported, kview, kvTy, keysOK, Bool.and_eq_true] at hT
  rw [decode_eq fmt wrap L _ _ hT.1, ← hC.struct_map _ _ hT.2.1.1 hk]
  rfl

def embeds (a : Bool) (t : Ty) : Bool := a && (innerFields t).isSome

theorem embeds_cases (a : Bool) (t : Ty) :
    (a = true ∧ ∃ ifs, t = .struct ifs) ∨ (a = true ∧ ∃ ifs, t = .ptr (.struct ifs)) ∨ embeds a t = false := by
  cases a
  · exact .inr (.inr rfl)
  · cases t with
    | struct fs => exact .inl ⟨rfl, fs, rfl⟩
    | ptr e => cases e <;> first | exact .inr (.inr rfl) | exact .inr (.inl ⟨rfl, _, rfl⟩)
    | _ => exact .inr (.inr rfl)

/-- as `isLeaf_not`, for `flatFields.eq_4`, `spliceKeys.eq_4`, … -/
theorem embeds_not (a : Bool) (t : Ty) (h : embeds a t = false) :
    (∀ ifs, a = true → t = .struct ifs → False) ∧ (∀ ifs, a = true → t = .ptr (.struct ifs) → False) := by
  refine ⟨?_, ?_⟩ <;> (rintro ifs rfl rfl; cases h)

theorem unflat_nil (t : Ty) (h : ∀ fs, t ≠ .struct fs) : unflatTy t .nil = .ok .nil := by
  cases t with
  | struct fs => exact absurd rfl (h fs)
  | ptr e => cases e <;> rfl
  | slice e => cases e <;> rfl
  | _ => rfl

theorem noStructField_cons (n : String) (a : Bool) (tg : Tags) (t : Ty) (r : Fields) :
    noStructField (.cons n a tg t r) = true ↔ (∀ fs, t ≠ .struct fs) ∧ noStructField r = true := by
  cases t <;> simp [noStructField]

theorem unhoist_nils : ∀ fs, noStructField fs = true →
    unhoist fs (List.replicate (Fields.length fs) .nil) = .ok (List.replicate (Fields.length fs) .nil) := by
  apply fields_ind
  · intro _; rfl
  · intro n a tg t r ih h
    rw [noStructField_cons] at h
    simp only [Fields.length, List.replicate_succ, unhoist, unflat_nil t h.1, ih h.2, obind_ok, omap_ok]

theorem hoistVals_length : ∀ fs vs, hoistOKVals fs vs = true → (hoistVals fs vs).length = Fields.length fs := by
  apply fields_ind
  · intro vs _; rfl
  · intro n a tg t r ih vs h
    cases vs with
    | nil => cases h
    | cons v vs => exact congrArg (· + 1) (ih vs (Bool.and_eq_true _ _ ▸ h).2)

theorem flatOKVals_nil (n : String) (a : Bool) (tg : Tags) (t : Ty) (r : Fields) :
    flatOKVals (.cons n a tg t r) [] = false := by
  cases a <;> cases t <;> first | rfl | (rename_i e; cases e <;> rfl)

theorem flat_roundtrip :
    (∀ t, ∀ x, ptrEmbedOK t = true → flatOKVal t x = true → unflatTy t (flatVal t x) = .ok x) ∧
    (∀ fs,
      (∀ vs, ptrEmbedOKFields fs = true → flatOKVals fs vs = true → unflatFields fs (flatVals fs vs) = .ok vs) ∧
      (∀ vs, ptrEmbedOKInner fs = true → hoistOKVals fs vs = true → unhoist fs (hoistVals fs vs) = .ok vs)) := by
  apply ty_ind
  · intro fs ih x he h
    cases x <;> try contradiction
    simp only [flatVal, unflatTy, ih.1 _ he h, omap_ok]
  · intro fs ih x he h
    cases x <;> try contradiction
    · rfl
    · rename_i v
      cases v <;> try contradiction
      simp only [flatVal, unflatTy, ih.1 _ he h, omap_ok]
  · intro fs ih x he h
    cases x <;> try contradiction
    · rfl
    · rename_i vs
      simp only [flatOKVal, List.all_eq_true] at h
      simp only [flatVal, unflatTy]
      rw [mapO_map_ok]
      · rfl
      · intro v hv
        have := h v hv
        cases v <;> try contradiction
        simp only [ih.1 _ he this, omap_ok]
  · intro t hl x _ _; rw [flatVal_leaf t x hl, unflatTy_leaf t x hl]
  · refine ⟨fun vs _ h => ?_, fun vs _ h => ?_⟩
    · cases vs with
      | nil => rfl
      | cons => cases h
    · cases vs with
      | nil => rfl
      | cons => cases h
  · intro n a tg t r iht hI ihr
    refine ⟨fun vs he h => ?_, fun vs he h => ?_⟩
    · rcases embeds_cases a t with ⟨rfl, ifs, rfl⟩ | ⟨rfl, ifs, rfl⟩ | hne
      · cases vs with
        | nil => cases h
        | cons v vs =>
          cases v <;> try contradiction
          rename_i ws
          simp only [ptrEmbedOKFields, flatOKVals, Bool.and_eq_true] at he h
          have hl := hoistVals_length ifs ws h.1
          simp only [flatVals, unflatFields]
          rw [List.take_left' hl, List.drop_left' hl, (hI ifs rfl).2 ws he.1 h.1, ihr.1 vs he.2 h.2]
          rfl
      · cases vs with
        | nil => cases h
        | cons v vs =>
          simp only [ptrEmbedOKFields, Bool.and_eq_true] at he
          cases v <;> try contradiction
          · simp only [flatVals, unflatFields]
            rw [List.take_left' List.length_replicate, List.drop_left' List.length_replicate,
              unhoist_nils ifs he.1.1, ihr.1 vs he.2 h]
            simp only [obind_ok, omap_ok, List.all_replicate, Val.isNil, ite_self, if_true]
          · rename_i v'
            cases v' <;> try contradiction
            rename_i ws
            simp only [flatOKVals, Bool.and_eq_true, Bool.not_eq_true'] at h
            have hl := hoistVals_length ifs ws h.1.1
            simp only [flatVals, unflatFields]
            rw [List.take_left' hl, List.drop_left' hl, (hI ifs rfl).2 ws he.1.2 h.1.1, ihr.1 vs he.2 h.2]
            simp only [obind_ok, omap_ok, h.1.2, Bool.false_eq_true, if_false]
      · obtain ⟨h1, h2⟩ := embeds_not a t hne
        rw [ptrEmbedOKFields.eq_4 n a tg t r h1 h2, Bool.and_eq_true] at he
        cases vs with
        | nil => rw [flatOKVals_nil] at h; cases h
        | cons v vs =>
          rw [flatOKVals.eq_7 n a tg t r v vs (fun ifs _ ha ht _ => h1 ifs ha ht) (fun ifs ha ht => h1 ifs ha ht)
            (fun ifs _ ha ht _ => h2 ifs ha ht) (fun ifs ha ht _ => h2 ifs ha ht) (fun ifs ha ht => h2 ifs ha ht),
            Bool.and_eq_true] at h
          rw [flatVals.eq_6 n a tg t r v vs (fun ifs _ ha ht _ => h1 ifs ha ht)
            (fun ifs _ ha ht _ => h2 ifs ha ht) (fun ifs ha ht _ => h2 ifs ha ht),
            unflatFields.eq_5 n a tg t r _ _ h1 h2, iht v he.1 h.1, ihr.1 vs he.2 h.2]
          rfl
    · cases vs with
      | nil => cases h
      | cons v vs =>
        simp only [ptrEmbedOKInner, hoistOKVals, Bool.and_eq_true] at he h
        simp only [hoistVals, unhoist, iht v he.1 h.1, ihr.2 vs he.2 h.2, obind_ok, omap_ok]

theorem keysOf_append (keyf : Tags → String) (sub ss : Bool) (b : Fields) :
    ∀ a, keysOf (kvFields keyf sub ss (Fields.append a b))
      = keysOf (kvFields keyf sub ss a) ++ keysOf (kvFields keyf sub ss b) := by
  apply fields_ind
  · rfl
  · intro n a tg t r ih; exact congrArg (_ :: ·) ih

theorem keysOf_hoist (keyf : Tags → String) (sub ss : Bool) :
    ∀ ifs, keysOf (kvFields keyf sub ss (hoist ifs)) = tagKeys keyf ifs := by
  apply fields_ind
  · rfl
  · intro n a tg t r ih; exact congrArg (_ :: ·) ih

theorem keysOf_flat (keyf : Tags → String) (sub ss : Bool) :
    ∀ gs, keysOf (kvFields keyf sub ss (flatFields gs)) = spliceKeys keyf gs := by
  apply fields_ind
  · rfl
  · intro n a tg t r ih
    rcases embeds_cases a t with ⟨rfl, ifs, rfl⟩ | ⟨rfl, ifs, rfl⟩ | hne
    · simp only [flatFields, spliceKeys, keysOf_append, keysOf_hoist, ih]
    · simp only [flatFields, spliceKeys, keysOf_append, keysOf_hoist, ih]
    · obtain ⟨h1, h2⟩ := embeds_not a t hne
      rw [flatFields.eq_4 n a tg t r h1 h2, spliceKeys.eq_4 keyf n a tg t r h1 h2]
      exact congrArg (_ :: ·) ih

theorem tagKeys_pass (fmt : Fmt) (P : Pass) (keyf keyf' : Tags → String)
    (hk : ∀ tg, Tags.lookup tg fmt.libTag ≠ some "" → keyf (P.tags tg) = keyf' tg) :
    ∀ fs, reachFields fmt fs = true → tagKeys keyf (passFields P fs) = tagKeys keyf' fs := by
  apply fields_ind
  · intro _; rfl
  · intro n a tg t r ih h
    simp only [reachFields, Bool.and_eq_true, bne_iff_ne, ne_eq] at h
    simp only [passFields, tagKeys, hk tg h.1.1, ih h.2]

theorem embeds_pass (P : Pass) (hleaf : ∀ t, P.leaf t = t) (a : Bool) (t : Ty) (h : embeds a t = false) :
    embeds a (passTy P t) = false := by
  rcases isLeaf_cases t with ⟨fs, rfl⟩ | ⟨fs, rfl⟩ | ⟨fs, rfl⟩ | hl
  · exact h
  · exact h
  · exact h
  · rw [passTy_leaf P t hl, hleaf]; exact h

theorem spliceKeys_pass (fmt : Fmt) (P : Pass) (keyf keyf' : Tags → String)
    (hk : ∀ tg, Tags.lookup tg fmt.libTag ≠ some "" → keyf (P.tags tg) = keyf' tg)
    (hleaf : ∀ t, P.leaf t = t) :
    ∀ fs, reachFields fmt fs = true → spliceKeys keyf (passFields P fs) = spliceKeys keyf' fs := by
  apply fields_ind
  · intro _; rfl
  · intro n a tg t r ih h
    simp only [reachFields, Bool.and_eq_true, bne_iff_ne, ne_eq] at h
    rcases embeds_cases a t with ⟨rfl, ifs, rfl⟩ | ⟨rfl, ifs, rfl⟩ | hne
    · simp only [passFields, passTy, spliceKeys, tagKeys_pass fmt P keyf keyf' hk ifs h.1.2, ih h.2]
    · simp only [passFields, passTy, spliceKeys, tagKeys_pass fmt P keyf keyf' hk ifs h.1.2, ih h.2]
    · obtain ⟨h1, h2⟩ := embeds_not a t hne
      obtain ⟨h1', h2'⟩ := embeds_not a _ (embeds_pass P hleaf a t hne)
      rw [passFields, spliceKeys.eq_4 keyf n a _ _ _ h1' h2', spliceKeys.eq_4 keyf' n a tg t r h1 h2,
        hk tg h.1.1, ih h.2]

end Dials.Decode
