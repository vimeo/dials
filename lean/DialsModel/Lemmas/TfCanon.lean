/-
Flatten-canonical values (C10): an explicit description of the values the flatten mangler restores
(`Canon`), the proof that they are in the domain of `losslessFlatten` (`canon_flattenGood`), and the
transport of canonicity through the (recursing) alias layer (`alias_canon`), so that the flag / env
chains' round trip can be stated with hypotheses on the ORIGINAL values only.
-/
import DialsModel.Lemmas.TfChain

namespace Dials.Tf

mutual
/-- `v` is flatten-canonical for a type whose outer `d` pointers have been passed: looking through
pointers and struct fields (slices, arrays, maps are leaves), every struct value sits behind exactly
the pointers of its type, has canonical field values, and is allocated only if one of its fields is
set — otherwise the whole value is nil.  (A leaf holds any value.) -/
def CanonAt : Nat → Ty → Val → Prop
  | d, .ptr e, v => CanonAt (d + 1) e v
  | d, .struct ifs, v =>
    v = .nilv ∨ ∃ fvs, v = wrapPtrs d (.struct fvs) ∧ CanonFs ifs fvs ∧ anySet fvs = true
  | _, _, _ => True
def CanonFs : Fields → List Val → Prop
  | .nil, vs => vs = []
  | .cons _ _ _ t r, vs => ∃ v vs', vs = v :: vs' ∧ CanonAt 0 t v ∧ CanonFs r vs'
end

/-- flatten-canonical values of a field type -/
def Canon (f : FT) (v : Val) : Prop := CanonAt 0 f.2 v

theorem CanonFs_All2 : ∀ (fs : Fields) (vs : List Val), CanonFs fs vs → All2 Canon fs.toList vs
  | .nil, _, h => by cases h; trivial
  | .cons _ _ _ _ r, _, ⟨_, vs', rfl, hc, hr⟩ => And.intro hc (CanonFs_All2 r vs' hr)

theorem All2_CanonFs : ∀ (fs : Fields) (vs : List Val), All2 Canon fs.toList vs → CanonFs fs vs
  | .nil, [], _ => rfl
  | .cons _ _ _ _ r, v :: vs, h => ⟨v, vs, rfl, h.1, All2_CanonFs r vs h.2⟩
  | .nil, _ :: _, h | .cons _ _ _ _ _, [], h => False.elim h

theorem CanonFs_iff (fs : Fields) (vs : List Val) : CanonFs fs vs ↔ All2 Canon fs.toList vs :=
  ⟨CanonFs_All2 fs vs, All2_CanonFs fs vs⟩

theorem CanonAt_nilv : ∀ (t : Ty) (d : Nat), CanonAt d t .nilv
  | .ptr e, d => CanonAt_nilv e (d + 1)
  | .struct _, _ => .inl rfl
  | .basic _ _, _ | .dur, _ | .pdur, _ | .tu _, _ | .slice _, _ | .array _ _, _ | .map _ _, _ | .set _, _ => trivial

theorem CanonAt_stripPtrs : ∀ (t : Ty) (d : Nat) (v : Val),
    CanonAt d t v = CanonAt (d + ptrDepth t) (stripPtrs t) v
  | .ptr e, d, v => by rw [CanonAt, CanonAt_stripPtrs e (d + 1) v, ptrDepth, stripPtrs, Nat.add_right_comm, Nat.add_assoc]
  | .struct _, _, _ | .basic _ _, _, _ | .dur, _, _ | .pdur, _, _ | .tu _, _, _ | .slice _, _, _ | .array _ _, _, _
  | .map _ _, _, _ | .set _, _, _ => rfl

theorem wrapPtrs_struct_isNil (d : Nat) (fvs : List Val) : (wrapPtrs d (.struct fvs)).isNil = false := by
  cases d <;> rfl

theorem canon_fields (fuel : Nat)
    (ih : ∀ t, tySize t < fuel + 1 → ∀ v rest, CanonAt 0 t v →
      populate (fuel + 1) t (flatLeaves (fuel + 1) t v ++ rest) = .ok (v, rest, !v.isNil) ∧
        (flatLeaves (fuel + 1) t v).length = leafN t) :
    ∀ (fs : List FT), (∀ f ∈ fs, tySize f.2 < fuel + 1) →
    ∀ fl, fs.length < fl → ∀ (fvs rest acc : List Val) (any : Bool), All2 Canon fs fvs →
      populate.fields (fuel + 1) fl fs (flatLeaves.go (fuel + 1) fl fs (some fvs) ++ rest) acc any =
          .ok (acc ++ fvs, rest, any || anySet fvs) ∧
        (flatLeaves.go (fuel + 1) fl fs (some fvs)).length = (fs.map fun f => leafN f.2).sum
  | [], _, fl + 1, _, [], rest, acc, any, _ => by
    constructor
    · unfold flatLeaves.go populate.fields; simp [anySet]
    · unfold flatLeaves.go; rfl
  | f :: fs, hsz, fl + 1, hfl, x :: xs, rest, acc, any, hc => by
    obtain ⟨h1, h1l⟩ := ih f.2 (hsz f (by simp)) x (flatLeaves.go (fuel + 1) fl fs (some xs) ++ rest) hc.1
    obtain ⟨h2, h2l⟩ := canon_fields fuel ih fs (fun g hg => hsz g (by simp [hg])) fl
      (by simp at hfl; omega) xs rest (acc ++ [x]) (any || !x.isNil) hc.2
    constructor
    · rw [go_cons, populate_fields_step, List.append_assoc, h1]
      simp only
      rw [h2]
      simp [anySet, Bool.or_assoc]
    · rw [go_cons, List.length_append, h1l, h2l]
      rfl
  | [], _, _ + 1, _, _ :: _, _, _, _, hc | _ :: _, _, _ + 1, _, [], _, _, _, hc => False.elim hc

/-- `populate` restores a canonical value from its leaves (and consumes exactly them) — for every type:
since the repair of P02 a struct held by value (pointer depth 0) is restored like one behind pointers
(no "every struct behind a pointer" hypothesis) -/
theorem populate_canon : ∀ (fuel : Nat) (t : Ty), tySize t < fuel →
    ∀ (v : Val) (rest : List Val), CanonAt 0 t v →
    populate fuel t (flatLeaves fuel t v ++ rest) = .ok (v, rest, !v.isNil) ∧
      (flatLeaves fuel t v).length = leafN t
  | 1, t, h => by cases t <;> simp [tySize] at h
  | fuel + 2, t, h => by
    intro v rest hc
    rcases struct_or_leaf t with ⟨ifs, hs⟩ | hleaf
    · rw [CanonAt_stripPtrs, hs, Nat.zero_add] at hc
      rcases hc with rfl | ⟨fvs, rfl, hcf, hany⟩
      · rw [flatLeaves_nilv (fuel + 2) t h]
        exact ⟨(populate_unset h rest (nils_length _) fun _ => mem_nils).1, nils_length _⟩
      · obtain ⟨hp, hl⟩ := canon_fields fuel (populate_canon (fuel + 1)) ifs.toList
          (fun f hf => by have := tySize_field_lt hs hf; omega) (ifs.toList.length + 1) (by omega) fvs rest [] false
          (CanonFs_All2 ifs fvs hcf)
        rw [flatLeaves_struct hs, strip_wrapPtrs, populate_struct hs, hp]
        simp only [List.nil_append, Bool.false_or, hany, if_true, wrapPtrs_struct_isNil, Bool.not_false]
        exact ⟨trivial, by rw [hl, leafN_of_struct hs]⟩
    · rw [flatLeaves_leaf hleaf, populate_leaf hleaf, leafN_of_leaf hleaf]
      simp

theorem canon_flattenGood (fuel : Nat) (f : FT) (v : Val) (hsz : tySize f.2 < fuel)
    (hc : Canon f v) : flattenGood fuel f v := by
  obtain ⟨hp, hl⟩ := populate_canon fuel f.2 hsz v [] hc
  rw [List.append_nil] at hp
  exact ⟨flatLeaves fuel f.2 v, !v.isNil, hl, hp⟩

theorem recurseType_alias_struct {tags : List String} {fuel : Nat} {h : Hdr} {t : Ty} {ifs : Fields}
    {wrap : Ty → Ty} {o' : FT} (hs : structish t = some (ifs, wrap))
    (ht : recurseType (fuel + 1) (aliasMangler tags) (h, t) = .ok o') :
    ∃ r, mangleLayer fuel (aliasMangler tags) ifs.toList = .ok r ∧ o' = (h, wrap (.struct (Fields.ofList r))) := by
  rcases recurseType_cases ht with ⟨hn, _⟩ | ⟨_, ifs', wrap', r, hs', hml, rfl⟩
  · rcases hn with hn | hn
    · cases hn
    · rw [hs] at hn; cases hn
  · cases hs.symm.trans hs'
    exact ⟨r, hml, rfl⟩

/-- a canonical value of a struct-ish field stays canonical, and set or unset as it was, when its struct
values are replaced by canonical ones that are set exactly if they were (a collection is a leaf) -/
theorem EncCase.canon {R : List Val → Prop} {g : List Val → List Val} {ifs ifs' : Fields} {t : Ty}
    {wrap : Ty → Ty} {w w' : Val} (hc : EncCase R g ifs t wrap w w') (hw : CanonAt 0 t w)
    (hin : ∀ svs, R svs → CanonFs ifs svs → CanonFs ifs' (g svs) ∧ anySet (g svs) = anySet svs) :
    CanonAt 0 (wrap (.struct ifs')) w' ∧ w'.isNil = w.isNil := by
  cases hc with
  | struct hg | ptr hg =>
    obtain ⟨fvs, he, hcf, hany⟩ := hw.resolve_left (fun h => nomatch h)
    cases he
    obtain ⟨p1, p2⟩ := hin _ hg hcf
    exact ⟨.inr ⟨_, rfl, p1, p2.trans hany⟩, rfl⟩
  | nilPtr => exact ⟨.inl rfl, rfl⟩
  | nilSlice | slice _ | array _ => exact ⟨trivial, rfl⟩

/-- TRANSPORT through alias: the alias encoding of flatten-canonical values is flatten-canonical for
the translated fields (an alias copy is unset, so no struct becomes set or unset) -/
theorem alias_canon (tags : List String) :
    ∀ (fuel : Nat),
      (∀ (fs fs' : List FT) (vs : List Val), mangleLayer fuel (aliasMangler tags) fs = .ok fs' →
        All2 (HG (aliasP tags)) fs vs → All2 Canon fs vs →
        All2 Canon fs' (encLayer (aliasMangler tags) (losslessAlias tags).enc fuel fs vs) ∧
          anySet (encLayer (aliasMangler tags) (losslessAlias tags).enc fuel fs vs) = anySet vs) ∧
      (∀ (o o' : FT) (w : Val), recurseType fuel (aliasMangler tags) o = .ok o' →
        Hered (aliasP tags) o.2 w → Canon o w →
        Canon o' (encVal (aliasMangler tags) (losslessAlias tags).enc fuel o w) ∧
          (encVal (aliasMangler tags) (losslessAlias tags).enc fuel o w).isNil = w.isNil)
  | 0 => ⟨fun _ _ _ hm => by simp [mangleLayer] at hm, fun _ _ _ ht => by simp [recurseType] at ht⟩
  | fuel + 1 => by
    obtain ⟨ihP, ihQ⟩ := alias_canon tags fuel
    constructor
    · intro fs fs' vs hm hg hc
      refine encLayer_induct (C := fun _ fs' vs ws => All2 Canon fs' ws ∧ anySet ws = anySet vs)
        ⟨trivial, rfl⟩ ?_ hm (hg.and hc)
      intro ⟨h, t⟩ v outs g fs fs' vs ⟨hgd, hcn⟩ hmf hrt ⟨ih1, ih2⟩
      -- the field's own values: its value, followed by nil for an alias copy
      rcases aliasMangle_shape tags h t with ⟨ha, hs⟩ | ⟨ha, h1, h2, hs⟩ <;> cases hmf.symm.trans hs
      · obtain ⟨o', _, ho', hg', rfl⟩ := mapM'_cons_ok hrt
        cases hg'
        obtain ⟨q1, q2⟩ := ihQ (h, t) o' v ho' hgd.2 hcn
        have he : (losslessAlias tags).enc h t v = [v] := by simp [losslessAlias, ha]
        rw [he]
        exact ⟨.append (And.intro q1 trivial) ih1, by rw [anySet_append, ih2]; simp [anySet, q2]⟩
      · obtain ⟨o1', _, ho1', hg', rfl⟩ := mapM'_cons_ok hrt
        obtain ⟨o2', _, ho2', hg'', rfl⟩ := mapM'_cons_ok hg'
        cases hg''
        obtain ⟨q1, q2⟩ := ihQ (h1, t) o1' v ho1' hgd.2 hcn
        obtain ⟨r1, r2⟩ := ihQ (h2, t) o2' .nilv ho2' (Hered_nilv _ (hgd.1 ha)) (CanonAt_nilv t 0)
        have he : (losslessAlias tags).enc h t v = [v, .nilv] := by simp [losslessAlias, ha]
        rw [he]
        exact ⟨.append (And.intro q1 (And.intro r1 trivial)) ih1,
          by rw [anySet_append, ih2]; simp [anySet, q2, r2, show Val.nilv.isNil = true from rfl]⟩
    · intro ⟨h, t⟩ o' w ht hh hc
      rcases encVal_cases (losslessAlias tags).enc ht (fun _ _ _ hs => HG_sub hs hh) with
        ⟨_, rfl, he⟩ | ⟨_, ifs, wrap, r, hml, rfl, hcase⟩
      · rw [he]
        exact ⟨hc, rfl⟩
      · refine hcase.canon hc fun svs h1 h2 => ?_
        obtain ⟨p1, p2⟩ := ihP ifs.toList r svs hml
          (h1.mono fun _ _ hx => hx.2) (CanonFs_All2 ifs svs h2)
        exact ⟨All2_CanonFs _ _ (by rw [toList_ofList]; exact p1), p2⟩

/-- the alias layer of a flag / env chain: values that are good for alias and flatten-canonical have an
alias encoding that flatten can restore -/
theorem alias_flattenGood (tags : List String) (fuelF fuel : Nat) (fs fs1 : List FT) (vs : List Val)
    (h1 : mangleLayer fuel (aliasMangler tags) fs = .ok fs1)
    (hv : All2 (HG (aliasP tags)) fs vs) (hc : All2 Canon fs vs)
    (hd : ∀ f ∈ fs1, tySize f.2 < fuelF) :
    All2 (flattenGood fuelF) fs1 (encLayer (aliasMangler tags) (losslessAlias tags).enc fuel fs vs) := by
  have hcn := ((alias_canon tags fuel).1 fs fs1 vs h1 hv hc).1
  exact All2.of_mem hcn.length fun f v hmem =>
    canon_flattenGood fuelF f v (hd f (List.of_mem_zip hmem).1) (hcn.mem f v hmem)

end Dials.Tf
