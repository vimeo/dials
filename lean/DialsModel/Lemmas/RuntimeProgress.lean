/-
Helper lemmas for C08 (progress and shutdown of the runtime model): the monitor is back in its select
after a bounded number of steps, a reported good value is installed whatever the callback goroutine
does, the callback goroutine's invariant, and the drain argument for the callback queue.
-/
import DialsModel.Lemmas.RuntimeFrame

namespace Dials.Runtime

theorem cancelCtx_mon (s : State) (ctx : Nat) :
    (cancelCtx s ctx).mon = if (ctx == 0 && s.mon == .sel) = true then .exit else s.mon := by
  unfold cancelCtx; dsimp only; split <;> rfl

theorem cancelCtx_isCancelled (s : State) (ctx : Nat) : (cancelCtx s ctx).isCancelled ctx = true := by
  have e : (cancelCtx s ctx).cancelled = if s.cancelled.contains ctx then s.cancelled else ctx :: s.cancelled := by
    unfold cancelCtx; dsimp only; split <;> rfl
  rw [State.isCancelled, e]
  split
  · assumption
  · simp

theorem runMon_exit_ok (W : World) (t : State) (ch : Nat) (h : t.mon = .exit) :
    ∃ t', runMon W t ch = some t' ∧ t'.mon = .finished ∧ t'.monDone = true :=
  ⟨_, (MonStep.exit h).run, rfl, rfl⟩

def iterStep (W : World) (l : Label) : Nat → State → Option State
  | 0, s => some s
  | n + 1, s => (step W s l).bind (iterStep W l n)

theorem iterStep_unique (W : World) (l : Label) (f : Nat → State → Option State)
    (h0 : ∀ s, f 0 s = some s) (hs : ∀ n s, f (n + 1) s = (step W s l).bind (f n)) :
    ∀ n s, f n s = iterStep W l n s := by
  intro n
  induction n with
  | zero => intro s; rw [h0]; rfl
  | succ n ih =>
    intro s
    have : f n = iterStep W l n := funext ih
    rw [hs, this]; rfl

theorem iterStep_succ {W : World} {l : Label} {s s1 s2 : State} {n : Nat}
    (h1 : step W s l = some s1) (h2 : iterStep W l n s1 = some s2) :
    iterStep W l (n + 1) s = some s2 := by
  simp only [iterStep, h1, Option.bind_some, h2]

theorem iterStep_add {W : World} {l : Label} {a b : Nat} {s s1 s2 : State}
    (h1 : iterStep W l a s = some s1) (h2 : iterStep W l b s1 = some s2) :
    iterStep W l (a + b) s = some s2 := by
  induction a generalizing s with
  | zero =>
    simp only [iterStep, Option.some.injEq] at h1
    subst h1; simpa using h2
  | succ a ih =>
    simp only [iterStep] at h1
    cases hst : step W s l with
    | none => simp [hst] at h1
    | some t =>
      simp only [hst, Option.bind_some] at h1
      have := ih h1
      have e : a + 1 + b = (a + b) + 1 := by omega
      rw [e]
      exact iterStep_succ hst this

def NotSendW (st : CSt) : Prop := ∀ m k, st ≠ .sendW m k

def NoIn (s : State) : Prop :=
  s.cancelled.contains 0 = false ∧ s.monCtl = [] ∧ AllC NotSendW s.clients

theorem NoIn_of_readyIns {s : State} (h : readyIns s = []) : NoIn s := by
  unfold readyIns at h
  simp only [List.append_eq_nil_iff] at h
  obtain ⟨⟨h1, h2⟩, h3⟩ := h
  refine ⟨?_, ?_, ?_⟩
  · unfold State.isCancelled at h1
    cases hc : s.cancelled.contains 0 with
    | false => rfl
    | true => rw [hc] at h1; simp at h1
  · cases hm : s.monCtl with
    | nil => rfl
    | cons p rest => obtain ⟨c, tok⟩ := p; rw [hm] at h2; simp at h2
  · intro p hp m k hpk
    rw [List.filterMap_eq_nil_iff] at h3
    have := h3 p hp
    rw [hpk] at this
    simp at this

theorem readyIns_of_NoIn {s : State} (h : NoIn s) : readyIns s = [] := by
  obtain ⟨h1, h2, h3⟩ := h
  unfold readyIns State.isCancelled
  rw [h1, h2]
  simp only [Bool.false_eq_true, if_false, List.nil_append, List.filterMap_eq_nil_iff]
  intro p hp
  split
  · next m k hpk => exact absurd hpk (h3 p hp m k)
  · rfl

/-- the length of the longest path from the pc to `sel` or `finished` when no input is ready -/
def monRank : MonPc → Nat
  | .sel => 0 | .finished => 0
  | .top => 1 | .exit => 1
  | .replyErr _ _ => 2 | .submitNew _ => 2 | .submitSrcErr _ => 2 | .gotDone _ => 2 | .enableReply _ _ _ _ => 2
  | .submitErr _ _ _ => 3 | .replyOk _ _ => 3 | .gotSrcErr _ => 3 | .verifyEnable _ _ => 3
  | .events _ _ => 4 | .gotEnable _ _ => 4
  | .store _ _ => 5
  | .verifyUpd _ _ => 6
  | .gotValue _ _ _ => 7

theorem monRank_le (pc : MonPc) : monRank pc ≤ 7 := by
  cases pc <;> simp [monRank]

theorem MonStep.enabled (W : World) {s : State} (hm : s.mon ≠ .sel ∧ s.mon ≠ .finished) : ∃ s', MonStep W 0 s s' := by
  cases h : s.mon with
  | top =>
    cases hr : readyIns s with
    | nil => exact ⟨_, .sleep h hr⟩
    | cons i rest => exact ⟨_, .take i h (by rw [hr]; rfl)⟩
  | sel => exact absurd h hm.1
  | finished => exact absurd h hm.2
  | gotValue src v reply => exact ⟨_, .gotValue src v reply h⟩
  | verifyUpd sl reply => exact ⟨_, .verifyUpd sl reply h⟩
  | submitErr k new reply => exact ⟨_, .submitErr k new reply h⟩
  | replyErr k c => exact ⟨_, .replyErr k c h⟩
  | store sl reply => exact ⟨_, .store sl reply h⟩
  | events old reply => exact ⟨_, .events old reply h⟩
  | replyOk old c => exact ⟨_, .replyOk old c h⟩
  | submitNew old => exact ⟨_, .submitNew old h⟩
  | gotSrcErr e => exact ⟨_, .gotSrcErr e h⟩
  | submitSrcErr e => exact ⟨_, .submitSrcErr e h⟩
  | gotDone src => exact ⟨_, .gotDone src h⟩
  | gotEnable c tok => exact ⟨_, .gotEnable c tok h⟩
  | verifyEnable c tok => exact ⟨_, .verifyEnable c tok h⟩
  | enableReply c tok ok noop => exact ⟨_, .enableReply c tok ok noop h⟩
  | exit => exact ⟨_, .exit h⟩

theorem MonStep.noIn_rank {W : World} {ch : Nat} {s s' : State} (h : MonStep W ch s s') (hn : NoIn s) :
    NoIn s' ∧ monRank s'.mon < monRank s.mon := by
  have hc : AllC NotSendW s'.clients :=
    h.clients_all (fun _ _ _ => nofun) (fun _ _ _ => nofun) (fun _ _ _ => nofun) hn.2.2
  have key : s'.cancelled = s.cancelled → s'.monCtl = s.monCtl → NoIn s' := fun e1 e2 => ⟨e1 ▸ hn.1, e2 ▸ hn.2.1, hc⟩
  cases h with
  | sleep hm _ | store sl reply hm | verifyEnable c tok hm | exit hm =>
    exact ⟨key rfl rfl, by rw [hm]; simp [monRank]⟩
  | take i _ hi => rw [readyIns_of_NoIn hn] at hi; cases hi
  | gotValue src v reply hm =>
    refine ⟨key rfl rfl, ?_⟩
    rw [hm]
    dsimp only
    split
    · simp [monRank]
    · split <;> simp [monRank]
  | verifyUpd sl reply hm =>
    refine ⟨key rfl rfl, ?_⟩
    rw [hm]
    show monRank (if _ then _ else _) < _
    split <;> simp [monRank]
  | submitErr k new reply hm =>
    refine ⟨key ?_ ?_, by rw [hm]; cases reply <;> simp [monRank]⟩ <;> rw [trySubmit_shape] <;> rfl
  | replyErr k c hm | replyOk old c hm =>
    exact ⟨key (replyTo_cancelled ..) (replyTo_monCtl ..), by rw [hm]; simp [monRank]⟩
  | events old reply hm => exact ⟨key rfl rfl, by rw [hm]; cases reply <;> simp [monRank]⟩
  | submitNew old hm | submitSrcErr e hm =>
    refine ⟨key ?_ ?_, by rw [hm]; simp [monRank]⟩ <;> rw [trySubmit_shape]
  | gotSrcErr e hm => rw [hm]; split <;> exact ⟨⟨hn.1, hn.2.1, hn.2.2⟩, by simp [monRank]⟩
  | gotDone src hm | gotEnable c tok hm =>
    refine ⟨key rfl rfl, ?_⟩
    rw [hm]
    dsimp only
    split <;> simp [monRank]
  | enableReply c tok ok noop hm =>
    refine ⟨key ?_ ?_, by rw [hm]; simp [monRank]⟩ <;> rw [respondTo_shape, enableSwitch_shape]

theorem mon_step_rank (W : World) (s : State) (h : NoIn s) (hm : s.mon ≠ .sel ∧ s.mon ≠ .finished) :
    ∃ s', runMon W s 0 = some s' ∧ NoIn s' ∧ monRank s'.mon < monRank s.mon := by
  obtain ⟨s', hs⟩ := MonStep.enabled W hm
  exact ⟨s', hs.run, hs.noIn_rank h⟩

theorem mon_returns (W : World) : ∀ n s, monRank s.mon ≤ n → NoIn s →
    ∃ k s', k ≤ n ∧ iterStep W (.runMon 0) k s = some s' ∧ (s'.mon = .sel ∨ s'.mon = .finished) := by
  intro n
  induction n with
  | zero =>
    intro s hr _
    refine ⟨0, s, Nat.le_refl _, rfl, ?_⟩
    cases hmon : s.mon <;> simp [hmon, monRank] at hr ⊢
  | succ n ih =>
    intro s hr hn
    by_cases hm : s.mon = .sel ∨ s.mon = .finished
    · exact ⟨0, s, Nat.zero_le _, rfl, hm⟩
    · have hm' : s.mon ≠ .sel ∧ s.mon ≠ .finished := ⟨fun e => hm (Or.inl e), fun e => hm (Or.inr e)⟩
      obtain ⟨s1, e1, hn1, hlt⟩ := mon_step_rank W s hn hm'
      obtain ⟨k, s', hk, e2, hfin⟩ := ih s1 (by omega) hn1
      exact ⟨k + 1, s', by omega, iterStep_succ (l := .runMon 0) e1 e2, hfin⟩

theorem monTake_value (s : State) (c src v : Nat) (reply : Option Nat) :
    let t := monTake s (.msg c (.value src v reply))
    t.mon = .gotValue src v reply ∧ t.cb = s.cb ∧ t.cbch = s.cbch ∧ t.slots = s.slots ∧ t.view = s.view ∧
      t.skipVerify = s.skipVerify := by
  refine ⟨?_, monTake_cb .., monTake_cbch .., monTake_slots .., monTake_view .., monTake_skipVerify ..⟩
  unfold monTake
  dsimp only
  split
  · rw [waitOr_shape]
  · rfl

theorem runMon_gotValue_ok (W : World) (t : State) (src v : Nat) (reply : Option Nat) (ch : Nat)
    (hm : t.mon = .gotValue src v reply) (hs : W.stackOk (setSlot t.slots src v) = true) :
    ∃ t', runMon W t ch = some t' ∧
      t'.mon = (if t.skipVerify then .store (setSlot t.slots src v) reply else .verifyUpd (setSlot t.slots src v) reply) ∧
      t'.view = t.view ∧ t'.cb = t.cb ∧ t'.cbch = t.cbch := by
  refine ⟨_, (MonStep.gotValue src v reply hm).run, ?_, rfl, rfl, rfl⟩
  dsimp only
  rw [hs]
  cases t.skipVerify <;> rfl

theorem runMon_verifyUpd_ok (W : World) (t : State) (sl : Slots) (reply : Option Nat) (ch : Nat)
    (hm : t.mon = .verifyUpd sl reply) (hv : W.valid sl = true) :
    ∃ t', runMon W t ch = some t' ∧ t'.mon = .store sl reply ∧ t'.view = t.view ∧ t'.cb = t.cb ∧ t'.cbch = t.cbch :=
  ⟨_, (MonStep.verifyUpd sl reply hm).run, by show (if _ then _ else _) = _; rw [hv]; rfl, rfl, rfl, rfl⟩

theorem runMon_store_ok (W : World) (t : State) (sl : Slots) (reply : Option Nat) (ch : Nat)
    (hm : t.mon = .store sl reply) :
    ∃ t', runMon W t ch = some t' ∧ t'.view = ⟨Facts.nextSerial t.view.serial, sl⟩ ∧ t'.cb = t.cb ∧ t'.cbch = t.cbch :=
  ⟨_, (MonStep.store sl reply hm).run, rfl, rfl, rfl⟩

theorem install_chain (W : World) (t : State) (src v : Nat) (reply : Option Nat)
    (hm : t.mon = .gotValue src v reply) (hs : W.stackOk (setSlot t.slots src v) = true)
    (hv : t.skipVerify = true ∨ W.valid (setSlot t.slots src v) = true) :
    ∃ n s2, n ≤ 3 ∧ iterStep W (.runMon 0) n t = some s2 ∧
      s2.view = ⟨Facts.nextSerial t.view.serial, setSlot t.slots src v⟩ ∧ s2.cb = t.cb ∧ s2.cbch = t.cbch := by
  obtain ⟨t1, e1, m1, v1, c1, q1⟩ := runMon_gotValue_ok W t src v reply 0 hm hs
  cases hsv : t.skipVerify with
  | true =>
    rw [hsv] at m1
    obtain ⟨t2, e2, v2, c2, q2⟩ := runMon_store_ok W t1 _ _ 0 m1
    refine ⟨2, t2, by omega, iterStep_succ (l := .runMon 0) e1 (iterStep_succ (l := .runMon 0) e2 rfl), ?_, ?_, ?_⟩
    · rw [v2, v1]
    · rw [c2, c1]
    · rw [q2, q1]
  | false =>
    rw [hsv] at m1 hv
    have hv' : W.valid (setSlot t.slots src v) = true := by
      rcases hv with h | h
      · cases h
      · exact h
    obtain ⟨t2, e2, m2, v2, c2, q2⟩ := runMon_verifyUpd_ok W t1 _ _ 0 m1 hv'
    obtain ⟨t3, e3, v3, c3, q3⟩ := runMon_store_ok W t2 _ _ 0 m2
    refine ⟨3, t3, by omega,
      iterStep_succ (l := .runMon 0) e1 (iterStep_succ (l := .runMon 0) e2 (iterStep_succ (l := .runMon 0) e3 rfl)),
      ?_, ?_, ?_⟩
    · rw [v3, v2, v1]
    · rw [c3, c2, c1]
    · rw [q3, q2, q1]

/-- what a step other than the monitor's exit and the callback goroutine's own steps can do to the
callback goroutine -/
def CbOk (s s' : State) : Prop :=
  s'.monDone = s.monDone ∧ (s'.cb = s.cb ∨ (s.cb = .sel ∧ ∃ ev, s'.cb = .got ev))

theorem CbOk_refl (s : State) : CbOk s s := ⟨rfl, Or.inl rfl⟩

theorem CbOk_of {s t s' : State} (h : CbOk s t) (h1 : s'.monDone = t.monDone) (h2 : s'.cb = t.cb) : CbOk s s' := by
  unfold CbOk; rw [h1, h2]; exact h

theorem CbOk_same {s s' : State} (h1 : s'.monDone = s.monDone) (h2 : s'.cb = s.cb) : CbOk s s' :=
  ⟨h1, Or.inl h2⟩

theorem CbOk_enqueueCb (s : State) (ev : CbEv) : CbOk s (enqueueCb s ev) := by
  refine ⟨by rw [enqueueCb_shape], ?_⟩
  unfold enqueueCb
  split
  · next h => exact .inr ⟨h, ev, rfl⟩
  · exact .inl rfl

theorem CbOk_trySubmit (s : State) (ev : CbEv) (ch : Nat) : CbOk s (trySubmit s ev ch) := by
  unfold trySubmit
  split
  · exact CbOk_of (CbOk_enqueueCb s ev) rfl rfl
  · exact CbOk_same rfl rfl

theorem CbOk_offerCb (s : State) (c : Nat) (ev : CbEv) (ctx ch : Nat) : CbOk s (offerCb s c ev ctx ch) := by
  unfold offerCb; dsimp only
  split
  · exact CbOk_same rfl rfl
  · split
    · split
      · exact CbOk_of (CbOk_enqueueCb s (.unreg _ _ _)) (by rw [waitOr_shape]) (by rw [waitOr_shape])
      · exact CbOk_of (CbOk_enqueueCb s (.reg _ _ _)) rfl rfl
      · exact CbOk_of (CbOk_enqueueCb s ev) rfl rfl
    · split <;> exact CbOk_same rfl rfl

theorem ClStep.cbOk {s s' : State} {c ch : Nat} (h : ClStep s c ch s') : CbOk s s' := by
  cases h with
  | report | reportErr | done => exact CbOk_same (offerW_monDone ..) (by rw [offerW_shape])
  | register | unregister => exact CbOk_offerCb ..
  | enable ctx _ _ => exact CbOk_same (by rw [offerCtl_shape]) (by rw [offerCtl_shape])
  | _ => exact CbOk_same rfl rfl

theorem MonStep.cbOk {W : World} {ch : Nat} {s s' : State} (h : MonStep W ch s s') (hne : s.mon ≠ .exit) :
    CbOk s s' := by
  rcases h.cb_side.2.2.2 with ⟨e1, _, e2⟩ | ⟨ev, _, e1, _, e2⟩ | ⟨he, _⟩
  · exact CbOk_same e2 e1
  · exact CbOk_of (CbOk_trySubmit s ev ch) (e2.trans (by rw [trySubmit_shape])) e1
  · exact absurd he hne

def CbInv (s : State) : Prop :=
  (∀ ev, s.cb ≠ .calls [] ev) ∧ (s.monDone = true → s.cb ≠ .sel)

theorem CbInv_of_CbOk {s s' : State} (hi : CbInv s) (h : CbOk s s') : CbInv s' := by
  obtain ⟨h1, h2⟩ := h
  rcases h2 with h2 | ⟨_, ev, h2⟩
  · unfold CbInv; rw [h1, h2]; exact hi
  · unfold CbInv; rw [h2]
    exact ⟨fun _ => nofun, fun _ => nofun⟩

theorem CbInv_step {W : World} {s s' : State} {l : Label} (hi : CbInv s) (h : Step W s l s') : CbInv s' := by
  cases h with
  | «begin» | ack => exact CbInv_of_CbOk hi (CbOk_same rfl rfl)
  | cancel ctx => exact CbInv_of_CbOk hi (CbOk_same (cancelCtx_monDone ..) (cancelCtx_cb ..))
  | client c ch h => exact CbInv_of_CbOk hi h.cbOk
  | mon ch h =>
    by_cases he : s.mon = .exit
    · obtain rfl := (MonStep.exit he).eq h.run
      refine ⟨fun ev => ?_, fun _ => ?_⟩ <;> dsimp only [State.logAdd] <;> split
      · exact nofun
      · exact hi.1 ev
      · exact nofun
      · next hne => exact fun e => hne e
    · exact CbInv_of_CbOk hi (h.cbOk he)
  | cb h =>
    cases h with
    | deq ev rest _ _ => rw [admitCbSender_shape]; exact ⟨fun _ => nofun, fun _ => nofun⟩
    | idle _ _ =>
      refine ⟨fun _ => by dsimp only; split <;> exact nofun, fun hd => ?_⟩
      dsimp only at hd ⊢
      rw [if_pos hd]
      exact nofun
    | call | next => exact ⟨fun _ => by simp, fun _ => nofun⟩
    | _ => exact ⟨fun _ => nofun, fun _ => nofun⟩

theorem CbInv_reachable {W : World} {P : Params} {sl : Slots} {w : List Bool} {s : State}
    (h : Reachable W P sl w s) : CbInv s :=
  reachable_induction ⟨fun _ => nofun, fun _ => nofun⟩ (fun _ _ _ hi h => CbInv_step hi (.of_step h)) h

def NotSendCb (st : CSt) : Prop := ∀ ev k, st ≠ .sendCb ev k

def Drain (s : State) : Prop := s.monDone = true ∧ AllC NotSendCb s.clients

theorem admitCbSender_of_AllC {s : State} (h : AllC NotSendCb s.clients) : admitCbSender s = s := by
  unfold admitCbSender
  split
  · next c ev ctx heq =>
    exact absurd rfl (h _ (List.mem_of_find?_eq_some heq) ev ctx)
  · rfl

theorem finishEv_handles_length (s : State) (ev : CbEv) :
    (finishEv s ev).handles.length ≤ s.handles.length + 1 := by
  unfold finishEv
  split
  · omega
  · omega
  · simp
  · next h c tok =>
    dsimp only
    have : (s.handles.filter (fun x => x.1 != h)).length ≤ s.handles.length := List.length_filter_le _ _
    split <;> (try split) <;> simp only [ret_handles] <;> omega

theorem Drain_finishEv {s : State} (ev : CbEv) (h : Drain s) : Drain (finishEv s ev) :=
  ⟨by rw [finishEv_monDone]; exact h.1, finishEv_all (fun _ _ => nofun) ev h.2⟩

theorem callsFor_length (hs : List (Nat × Nat)) (ls : Nat) (lv : Option Slots) (ev : CbEv) :
    (callsFor hs ls lv ev).length ≤ hs.length + 1 := by
  unfold callsFor
  split
  · simp
  · next old new supp =>
    have := List.length_filter_le (fun h : Nat × Nat => !(Facts.cbSkip h.2 new.serial)) hs
    simp only [List.length_append, List.length_map]
    split <;> simp <;> omega
  · split
    · split <;> simp
    · simp
  · simp

theorem Drain_cbPre {s : State} (ev : CbEv) (h : Drain s) : Drain (cbPre s ev) := by
  unfold Drain; rw [cbPre_shape]; exact h

theorem runCb_top_cons {s : State} {ev : CbEv} {rest : List CbEv} (hc : s.cb = .top) (hq : s.cbch = ev :: rest)
    (hd : Drain s) :
    ∃ s', runCb s = some s' ∧ s'.cb = .got ev ∧ s'.cbch = rest ∧ s'.handles = s.handles ∧ Drain s' :=
  ⟨cbTake { s with cbch := rest } ev, by rw [(CbStep.deq ev rest hc hq).run, admitCbSender_of_AllC]; exact hd.2,
    rfl, rfl, rfl, hd⟩

theorem runCb_top_nil {s : State} (hc : s.cb = .top) (hq : s.cbch = []) (hd : s.monDone = true) :
    runCb s = some { s with cb := .exit } :=
  (CbStep.idle hc hq).run.trans (by rw [if_pos hd])

theorem runCb_exit {s : State} (hc : s.cb = .exit) : runCb s = some { s with cb := .finished } :=
  (CbStep.exit hc).run

theorem runCb_got {s : State} {ev : CbEv} (hc : s.cb = .got ev) (hd : Drain s) :
    ∃ s', runCb s = some s' ∧ s'.cbch = s.cbch ∧ Drain s' ∧
      ((s'.cb = .top ∧ s'.handles.length ≤ s.handles.length + 1) ∨
       (∃ c cs, s'.cb = .calls (c :: cs) ev ∧ cs.length ≤ s.handles.length ∧ s'.handles = s.handles)) := by
  have hh : (cbPre s ev).handles = s.handles := by rw [cbPre_shape]
  have hlen : (cbCalls s ev).length ≤ (cbPre s ev).handles.length + 1 := callsFor_length ..
  rw [hh] at hlen
  cases hcs : cbCalls s ev with
  | nil =>
    refine ⟨_, (CbStep.skip ev hc hcs).run, by rw [finishEv_shape, cbPre_shape], Drain_finishEv ev (Drain_cbPre ev hd),
      .inl ⟨rfl, ?_⟩⟩
    exact hh ▸ finishEv_handles_length (cbPre s ev) ev
  | cons c cs =>
    rw [hcs, List.length_cons] at hlen
    exact ⟨_, (CbStep.call ev c cs hc hcs).run, by rw [cbPre_shape]; rfl, Drain_cbPre ev hd,
      .inr ⟨c, cs, rfl, by omega, hh⟩⟩

theorem runCb_calls_last {s : State} {c : Call} {ev : CbEv} (hc : s.cb = .calls [c] ev) (hd : Drain s) :
    ∃ s', runCb s = some s' ∧ s'.cbch = s.cbch ∧ Drain s' ∧ s'.cb = .top ∧
      s'.handles.length ≤ s.handles.length + 1 :=
  ⟨_, (CbStep.last c ev hc).run, finishEv_cbch s ev, Drain_finishEv ev hd, rfl, finishEv_handles_length s ev⟩

theorem runCb_calls_more {s : State} {c c' : Call} {cs : List Call} {ev : CbEv}
    (hc : s.cb = .calls (c :: c' :: cs) ev) (hd : Drain s) :
    ∃ s', runCb s = some s' ∧ s'.cbch = s.cbch ∧ Drain s' ∧ s'.cb = .calls (c' :: cs) ev ∧
      s'.handles = s.handles :=
  ⟨_, (CbStep.next c c' cs ev hc).run, rfl, hd, rfl, rfl⟩

theorem drain_calls (W : World) (ev : CbEv) : ∀ (cs : List Call) (c : Call) (s : State),
    s.cb = .calls (c :: cs) ev → Drain s →
    ∃ s', iterStep W .runCb (cs.length + 1) s = some s' ∧ s'.cb = .top ∧ s'.cbch = s.cbch ∧ Drain s' ∧
      s'.handles.length ≤ s.handles.length + 1 := by
  intro cs
  induction cs with
  | nil =>
    intro c s hc hd
    obtain ⟨s', e, hq, hd', hc', hl⟩ := runCb_calls_last hc hd
    exact ⟨s', iterStep_succ (l := .runCb) e rfl, hc', hq, hd', hl⟩
  | cons c' cs ih =>
    intro c s hc hd
    obtain ⟨s1, e, hq, hd1, hc1, hh⟩ := runCb_calls_more hc hd
    obtain ⟨s', e', hc', hq', hd', hl⟩ := ih c' s1 hc1 hd1
    refine ⟨s', iterStep_succ (l := .runCb) e e', hc', by rw [hq', hq], hd', by rw [← hh]; exact hl⟩

theorem drain_event (W : World) {s : State} {ev : CbEv} {rest : List CbEv} (hc : s.cb = .top)
    (hq : s.cbch = ev :: rest) (hd : Drain s) :
    ∃ n s', n ≤ s.handles.length + 3 ∧ iterStep W .runCb n s = some s' ∧ s'.cb = .top ∧ s'.cbch = rest ∧
      Drain s' ∧ s'.handles.length ≤ s.handles.length + 1 := by
  obtain ⟨s1, e1, hc1, hq1, hh1, hd1⟩ := runCb_top_cons hc hq hd
  obtain ⟨s2, e2, hq2, hd2, hcase⟩ := runCb_got hc1 hd1
  rcases hcase with ⟨hc2, hl2⟩ | ⟨c, cs, hc2, hl2, hh2⟩
  · refine ⟨2, s2, by omega, iterStep_succ (l := .runCb) e1 (iterStep_succ (l := .runCb) e2 rfl), hc2,
      by rw [hq2, hq1], hd2, by rw [← hh1]; exact hl2⟩
  · obtain ⟨s3, e3, hc3, hq3, hd3, hl3⟩ := drain_calls W ev cs c s2 hc2 hd2
    have e : cs.length + 1 + 1 + 1 = (cs.length + 1 + 1) + 1 := rfl
    refine ⟨cs.length + 1 + 1 + 1, s3, by rw [hh1] at hl2; omega,
      iterStep_succ (l := .runCb) e1 (iterStep_succ (l := .runCb) e2 e3), hc3, by rw [hq3, hq2, hq1], hd3,
      by rw [hh2, hh1] at hl3; exact hl3⟩

/-- an event takes at most `handles + 3` steps (`drain_event`) and may register one more handle, whence the `+ q` -/
theorem drain_top (W : World) : ∀ (q : Nat) (s : State), s.cb = .top → s.cbch.length = q → Drain s →
    ∃ n s', n ≤ q * (s.handles.length + q + 3) + 2 ∧ iterStep W .runCb n s = some s' ∧ s'.cb = .finished := by
  intro q
  induction q with
  | zero =>
    intro s hc hq hd
    have hq' : s.cbch = [] := List.eq_nil_of_length_eq_zero hq
    refine ⟨2, { s with cb := .finished }, by omega, ?_, rfl⟩
    exact iterStep_succ (l := .runCb) (runCb_top_nil hc hq' hd.1)
      (iterStep_succ (l := .runCb) (runCb_exit (s := { s with cb := .exit }) rfl) rfl)
  | succ q ih =>
    intro s hc hq hd
    cases hcb : s.cbch with
    | nil => rw [hcb] at hq; simp at hq
    | cons ev rest =>
      rw [hcb] at hq
      simp only [List.length_cons, Nat.add_right_cancel_iff] at hq
      obtain ⟨n1, s1, hn1, e1, hc1, hq1, hd1, hl1⟩ := drain_event W hc hcb hd
      obtain ⟨n2, s2, hn2, e2, hfin⟩ := ih s1 hc1 (by rw [hq1]; exact hq) hd1
      refine ⟨n1 + n2, s2, ?_, iterStep_add e1 e2, hfin⟩
      have m1 : q * (s1.handles.length + q + 3) ≤ q * (s.handles.length + q + 4) :=
        Nat.mul_le_mul_left q (by omega)
      have m2 : (q + 1) * (s.handles.length + (q + 1) + 3) =
          q * (s.handles.length + q + 4) + (s.handles.length + q + 4) := by
        have e : s.handles.length + (q + 1) + 3 = s.handles.length + q + 4 := by omega
        rw [e, Nat.succ_mul]
      omega

theorem cb_exits (W : World) (s : State) (hi : CbInv s) (hd : Drain s) :
    ∃ n s', n ≤ (s.cbch.length + 1) * (s.handles.length + s.cbch.length + 4) + 4 +
        (match s.cb with | .calls cs _ => cs.length | _ => 0) ∧
      iterStep W .runCb n s = some s' ∧ s'.cb = .finished := by
  have key : ∀ t : State, t.cb = .top → t.cbch = s.cbch → Drain t → t.handles.length ≤ s.handles.length + 1 →
      ∃ n s', n ≤ s.cbch.length * (s.handles.length + s.cbch.length + 4) + 2 ∧
        iterStep W .runCb n t = some s' ∧ s'.cb = .finished := by
    intro t hc hq hd' hl
    obtain ⟨n, s', hn, e, hfin⟩ := drain_top W s.cbch.length t hc (by rw [hq]) hd'
    have m1 : s.cbch.length * (t.handles.length + s.cbch.length + 3) ≤
        s.cbch.length * (s.handles.length + s.cbch.length + 4) := Nat.mul_le_mul_left _ (by omega)
    exact ⟨n, s', by omega, e, hfin⟩
  have m2 : (s.cbch.length + 1) * (s.handles.length + s.cbch.length + 4) =
      s.cbch.length * (s.handles.length + s.cbch.length + 4) + (s.handles.length + s.cbch.length + 4) := by
    rw [Nat.succ_mul]
  cases hcb : s.cb with
  | top =>
    obtain ⟨n, s', hn, e, hfin⟩ := key s hcb rfl hd (by omega)
    exact ⟨n, s', by simp only []; omega, e, hfin⟩
  | sel => exact absurd hcb (hi.2 hd.1)
  | got ev =>
    obtain ⟨s2, e2, hq2, hd2, hcase⟩ := runCb_got hcb hd
    rcases hcase with ⟨hc2, hl2⟩ | ⟨c, cs, hc2, hl2, hh2⟩
    · obtain ⟨n, s', hn, e, hfin⟩ := key s2 hc2 hq2 hd2 hl2
      exact ⟨n + 1, s', by simp only []; omega, iterStep_succ (l := .runCb) e2 e, hfin⟩
    · obtain ⟨s3, e3, hc3, hq3, hd3, hl3⟩ := drain_calls W ev cs c s2 hc2 hd2
      obtain ⟨n, s', hn, e, hfin⟩ := key s3 hc3 (by rw [hq3, hq2]) hd3 (by rw [hh2] at hl3; exact hl3)
      refine ⟨(cs.length + 1 + n) + 1, s', by simp only []; omega,
        iterStep_succ (l := .runCb) e2 (iterStep_add e3 e), hfin⟩
  | calls cs ev =>
    cases cs with
    | nil => exact absurd hcb (hi.1 ev)
    | cons c cs =>
      obtain ⟨s3, e3, hc3, hq3, hd3, hl3⟩ := drain_calls W ev cs c s hcb hd
      obtain ⟨n, s', hn, e, hfin⟩ := key s3 hc3 hq3 hd3 hl3
      exact ⟨cs.length + 1 + n, s', by simp only [List.length_cons]; omega, iterStep_add e3 e, hfin⟩
  | exit =>
    exact ⟨1, { s with cb := .finished }, by simp only []; omega,
      iterStep_succ (l := .runCb) (runCb_exit hcb) rfl, rfl⟩
  | finished => exact ⟨0, s, Nat.zero_le _, rfl, hcb⟩

end Dials.Runtime
