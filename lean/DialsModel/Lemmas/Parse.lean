/- Lemmas about the ParseInt / Split models used by the C15 properties. -/
import DialsModel.Model.ParseInt
import DialsModel.Model.Split
import DialsModel.Lemmas.Chars

namespace Dials.Parse
open Dials

theorem canonSlice_cons2 (x y : S) (ys : List S) :
    canonSlice (x :: y :: ys) = .str (some x) :: .comma :: canonSlice (y :: ys) := rfl

theorem splitSlice_canon : ∀ (zs acc : List S), splitSlice (canonSlice zs) true acc = .ok (acc ++ zs)
  | [], acc => by simp [canonSlice, splitSlice]
  | [x], acc => by simp [canonSlice, splitSlice]
  | x :: y :: zs, acc => by simp [canonSlice_cons2, splitSlice, splitSlice_canon (y :: zs)]

theorem splitSet_canon_step (x : S) (xs acc : List S) :
    splitSet (canonSlice (x :: xs)) true acc =
      if x ∈ acc then .err "already present" else splitSet (canonSlice xs) true (acc ++ [x]) := by
  cases xs <;> by_cases hx : x ∈ acc <;> simp [canonSlice, splitSet, hx]

/-- the set machine on a canonical stream accepts exactly the duplicate-free lists -/
theorem splitSet_canon (zs : List S) : ∀ acc, acc.Nodup →
    splitSet (canonSlice zs) true acc = if (acc ++ zs).Nodup then .ok (acc ++ zs) else .err "already present" := by
  induction zs with
  | nil => intro acc h; simp [canonSlice, splitSet, h]
  | cons x xs ih =>
    intro acc h
    rw [splitSet_canon_step]
    by_cases hx : x ∈ acc
    · have : ¬ (acc ++ x :: xs).Nodup := fun hn => (List.nodup_append.1 hn).2.2 x hx x (by simp) rfl
      rw [if_pos hx, if_neg this]
    · have hax : (acc ++ [x]).Nodup := by simpa [List.nodup_append, h] using fun a ha (e : a = x) => hx (e ▸ ha)
      rw [if_neg hx, ih _ hax]
      simp

/-- the state after a completed pair -/
def st0 (acc : List (S × S)) : MapSt :=
  { inKey := true, inValue := false, curKey := [], curVal := [], acc := acc }

theorem st0_nil : ({} : MapSt) = st0 [] := rfl

/-- one printed pair with a non-empty key: the add callback is called once, with that pair -/
theorem splitMap_canon_step (add : List (S × S) → S → S → Outcome (List (S × S)))
    (k v : S) (rest : List (S × S)) (acc acc' : List (S × S)) (hk : k ≠ [])
    (hadd : add acc k v = .ok acc') :
    splitMapWith add (canonMap ((k, v) :: rest)) (st0 acc) = splitMapWith add (canonMap rest) (st0 acc') := by
  have hk' : k.isEmpty = false := by cases k <;> simp_all
  rcases rest with _ | ⟨⟨k2, v2⟩, rest⟩ <;> simp [canonMap, splitMapWith, st0, hk', hadd]

theorem splitMap_multi (kvs : List (S × S)) :
    ∀ acc, (∀ p ∈ kvs, p.1 ≠ []) → splitMapWith addMulti (canonMap kvs) (st0 acc) = .ok (acc ++ kvs) := by
  induction kvs with
  | nil => intro acc _; simp [canonMap, splitMapWith, st0]
  | cons p rest ih =>
    intro acc hne
    rw [splitMap_canon_step addMulti p.1 p.2 rest acc _ (hne p (by simp)) rfl, ih _ fun q hq => hne q (by simp [hq])]
    simp

theorem splitMap_unique (kvs : List (S × S)) :
    ∀ acc, ((acc ++ kvs).map (·.1)).Nodup → (∀ p ∈ kvs, p.1 ≠ []) →
      splitMapWith addUnique (canonMap kvs) (st0 acc) = .ok (acc ++ kvs) := by
  induction kvs with
  | nil => intro acc _ _; simp [canonMap, splitMapWith, st0]
  | cons p rest ih =>
    intro acc hnd hne
    have hadd : addUnique acc p.1 p.2 = .ok (acc ++ [p]) := by
      have : ∀ q ∈ acc, q.1 ≠ p.1 := fun q hq =>
        (List.nodup_append.1 (by simpa using hnd)).2.2 q.1 (List.mem_map_of_mem hq) p.1 (by simp)
      simpa [addUnique] using fun x hx => this (p.1, x) hx rfl
    rw [splitMap_canon_step addUnique p.1 p.2 rest acc _ (hne p (by simp)) hadd,
      ih _ (by simpa using hnd) fun q hq => hne q (by simp [hq])]
    simp

def digit (d : Nat) : Char := Char.ofNat (48 + d)

theorem digit_toNat (d : Nat) (h : d < 10) : (digit d).toNat = 48 + d :=
  toNat_ofNat_lt _ (by omega)

theorem digit_isDigit (d : Nat) (h : d < 10) : isDigitA (digit d) = true := by
  rw [isDigitA_iff, digit_toNat d h]; omega

theorem isDigit_ne {c : Char} (h : isDigitA c = true) (d : Char) (hd : d.toNat < 48 ∨ 57 < d.toNat) : c ≠ d := by
  have ⟨h1, h2⟩ := (isDigitA_iff c).1 h
  apply ne_of_toNat_ne; omega

theorem isDigit_not_space {c : Char} (h : isDigitA c = true) : isSpaceA c = false := by
  have ⟨h1, h2⟩ := (isDigitA_iff c).1 h
  simp [isSpaceA, isDigit_ne h ' ', isDigit_ne h '\t', isDigit_ne h '\n', isDigit_ne h '\r']
  omega

theorem decimal_induction {P : Nat → Prop} (lt : ∀ n, n < 10 → P n) (ge : ∀ n, 10 ≤ n → P (n / 10) → P n) : ∀ n, P n := by
  intro n
  induction n using Nat.strongRecOn with
  | _ n ih =>
    by_cases h : n < 10
    · exact lt n h
    · exact ge n (by omega) (ih _ (by omega))

theorem natDigits_eq (n : Nat) : ∀ fuel acc, n < fuel → natDigits fuel n acc = natDigits (n + 1) n [] ++ acc := by
  induction n using Nat.strongRecOn with
  | _ n ih =>
    intro fuel acc hf
    cases fuel with
    | zero => omega
    | succ f =>
      simp only [natDigits]
      by_cases h : n / 10 = 0
      · simp [h]
      · simp only [h, if_false]
        have hlt : n / 10 < n := by omega
        rw [ih (n / 10) hlt f _ (by omega), ih (n / 10) hlt n _ hlt]
        simp

theorem formatNat_lt (n : Nat) (h : n < 10) : formatNat n = [digit n] := by
  have h0 : n / 10 = 0 := by omega
  have h1 : n % 10 = n := by omega
  simp [formatNat, natDigits, h0, h1, digit]

theorem formatNat_ge (n : Nat) (h : 10 ≤ n) : formatNat n = formatNat (n / 10) ++ [digit (n % 10)] := by
  have h0 : ¬ n / 10 = 0 := by omega
  have hlt : n / 10 < n := by omega
  unfold formatNat
  simp only [natDigits, h0, if_false]
  rw [natDigits_eq (n / 10) n _ hlt]
  rfl

theorem formatNat_shape (n : Nat) :
    ∃ d rest, formatNat n = digit d :: rest ∧ d < 10 ∧ (0 < n → d ≠ 0) := by
  induction n using decimal_induction with
  | lt n h => exact ⟨n, [], formatNat_lt n h, h, by omega⟩
  | ge n h ih =>
    obtain ⟨d, rest, he, hd, h0⟩ := ih
    exact ⟨d, rest ++ [digit (n % 10)], by rw [formatNat_ge n h, he]; rfl, hd, fun _ => h0 (by omega)⟩

theorem formatNat_ne_nil (n : Nat) : formatNat n ≠ [] := by
  obtain ⟨d, rest, he, _⟩ := formatNat_shape n
  simp [he]

theorem formatNat_digits (n : Nat) : ∀ c ∈ formatNat n, isDigitA c = true := by
  induction n using decimal_induction with
  | lt n h => simpa [formatNat_lt n h] using digit_isDigit n h
  | ge n h ih => simpa [formatNat_ge n h, or_imp, forall_and] using ⟨ih, digit_isDigit _ (by omega)⟩

theorem digitVal_digit (d : Nat) (h : d < 10) : digitVal (digit d) = some d := by
  simp [digitVal, digit_isDigit d h, digit_toNat d h]

theorem digitsLoop_snoc (s : Str) (d : Nat) (h : d < 10) : ∀ n us,
    digitsLoop 10 (s ++ [digit d]) n us = (digitsLoop 10 s n us).map fun r => (r.1 * 10 + d, r.2) := by
  have hu : (digit d == '_') = false := digit_ne_underscore _ (digit_isDigit d h)
  induction s with
  | nil => intro n us; simp [digitsLoop, hu, digitVal_digit d h, h]
  | cons c cs ih =>
    intro n us
    simp only [List.cons_append, digitsLoop, ih]
    split
    · rfl
    · split
      · split <;> rfl
      · rfl

theorem digitsLoop_formatNat (n : Nat) : digitsLoop 10 (formatNat n) 0 false = some (n, false) := by
  induction n using decimal_induction with
  | lt n h => simpa [formatNat_lt n h, digitsLoop] using digitsLoop_snoc [] n h 0 false
  | ge n h ih =>
    rw [formatNat_ge n h, digitsLoop_snoc _ _ (by omega), ih]
    simp only [Option.map_some]
    congr 2; omega

theorem splitPrefix_of_ne (c : Char) (r : Str) (h : c ≠ '0') : splitPrefix (c :: r) = (10, c :: r) := by
  unfold splitPrefix
  split <;> simp_all

theorem parseUintLit_formatNat (n : Nat) : parseUintLit (formatNat n) = some n := by
  by_cases h0 : n = 0
  · subst h0; decide
  · obtain ⟨d, rest, he, hd, hd0⟩ := formatNat_shape n
    have hne : digit d ≠ '0' := ne_of_toNat_ne (by rw [digit_toNat d hd]; simp; omega)
    have hl := digitsLoop_formatNat n
    rw [he] at hl ⊢
    simp [parseUintLit, splitPrefix_of_ne _ rest hne, hl]

theorem parseUintLit_sign (c : Char) (r : Str) (h : c = '+' ∨ c = '-') : parseUintLit (c :: r) = none := by
  have hp : splitPrefix (c :: r) = (10, c :: r) := splitPrefix_of_ne c r (by rcases h with rfl | rfl <;> decide)
  rcases h with rfl | rfl <;> simp [parseUintLit, hp, digitsLoop, digitVal, isDigitA, isLowerA, isUpperA]

theorem parseIntLit_of_parseUintLit {s : Str} {n : Nat} (h : parseUintLit s = some n) :
    parseIntLit s = some (Int.ofNat n) := by
  unfold parseIntLit
  split
  · simp [parseUintLit] at h
  · rw [parseUintLit_sign _ _ (.inl rfl)] at h; cases h
  · rw [parseUintLit_sign _ _ (.inr rfl)] at h; cases h
  · rw [h]; rfl

theorem parseIntLit_formatInt (v : Int) : parseIntLit (formatInt v) = some v := by
  unfold formatInt
  split
  · show (parseUintLit (formatNat v.natAbs)).map (fun n => -(Int.ofNat n)) = some v
    rw [parseUintLit_formatNat]; simp; omega
  · rw [parseIntLit_of_parseUintLit (parseUintLit_formatNat _)]; simp; omega

theorem trimLeft_spaces_append (pre r : Str) (h : pre.all isSpaceA = true) : trimLeft (pre ++ r) = trimLeft r := by
  induction pre with
  | nil => rfl
  | cons c cs ih =>
    simp only [List.all_cons, Bool.and_eq_true] at h
    simp only [List.cons_append, trimLeft, h.1, if_true]
    exact ih h.2

theorem trimLeft_nonspace (w t : Str) (hw : w ≠ []) (hns : ∀ c ∈ w, isSpaceA c = false) : trimLeft (w ++ t) = w ++ t := by
  cases w with
  | nil => exact absurd rfl hw
  | cons c r => simp [trimLeft, hns c (by simp)]

theorem trimSpace_pad (pre post w : Str) (hw : w ≠ []) (hns : ∀ c ∈ w, isSpaceA c = false)
    (hpre : pre.all isSpaceA = true) (hpost : post.all isSpaceA = true) :
    trimSpace (pre ++ w ++ post) = w := by
  unfold trimSpace
  rw [List.append_assoc, trimLeft_spaces_append _ _ hpre, trimLeft_nonspace w post hw hns, List.reverse_append,
    trimLeft_spaces_append _ _ (by simpa using hpost)]
  have := trimLeft_nonspace w.reverse [] (by simpa using hw) (by simpa using hns)
  rw [List.append_nil] at this
  rw [this, List.reverse_reverse]

theorem splitComma_nocomma (w t : Str) (h : ∀ c ∈ w, c ≠ ',') : ∀ cur,
    splitComma (w ++ t) cur = splitComma t (cur ++ w) := by
  induction w with
  | nil => intro cur; simp
  | cons c cs ih =>
    intro cur
    have hc : (c == ',') = false := by simpa using h c (by simp)
    simp only [List.cons_append, splitComma, hc, Bool.false_eq_true, if_false]
    rw [ih (fun c hc => h c (by simp [hc]))]
    simp

theorem splitComma_single (w : Str) (h : ∀ c ∈ w, c ≠ ',') : splitComma w [] = [w] := by
  simpa [splitComma] using splitComma_nocomma w [] h []

theorem splitComma_join (ws : List Str) (hne : ws ≠ []) (h : ∀ w ∈ ws, ∀ c ∈ w, c ≠ ',') :
    splitComma (joinComma ws) [] = ws := by
  induction ws with
  | nil => exact absurd rfl hne
  | cons w ws ih =>
    cases ws with
    | nil => exact splitComma_single w (h w (by simp))
    | cons w2 ws2 =>
      show splitComma (w ++ ',' :: joinComma (w2 :: ws2)) [] = _
      rw [splitComma_nocomma w _ (h w (by simp))]
      simp only [List.nil_append, splitComma, beq_self_eq_true, if_true]
      rw [ih (by simp) (fun w hw => h w (by simp [hw]))]

/-- characters of a formatted integer -/
def intChar (c : Char) : Prop := c = '-' ∨ isDigitA c = true

theorem intChar_not_space {c : Char} (h : intChar c) : isSpaceA c = false := by
  rcases h with rfl | h
  · decide
  · exact isDigit_not_space h

theorem intChar_ne_comma {c : Char} (h : intChar c) : c ≠ ',' := by
  rcases h with rfl | h
  · decide
  · exact isDigit_ne h ',' (by decide)

theorem isSpaceA_ne_comma {s : Str} (hs : s.all isSpaceA = true) : ∀ c ∈ s, c ≠ ',' :=
  fun c hc e => absurd (List.all_eq_true.1 hs c hc) (e ▸ by decide)

theorem formatInt_chars (v : Int) : ∀ c ∈ formatInt v, intChar c := by
  intro c hc
  unfold formatInt at hc
  split at hc
  · rcases List.mem_cons.1 hc with rfl | hc
    · exact .inl rfl
    · exact .inr (formatNat_digits _ c hc)
  · exact .inr (formatNat_digits _ c hc)

theorem formatInt_ne_nil (v : Int) : formatInt v ≠ [] := by
  unfold formatInt
  split
  · simp
  · exact formatNat_ne_nil _

theorem trimSpace_formatInt_pad (v : Int) (pre post : Str)
    (hpre : pre.all isSpaceA = true) (hpost : post.all isSpaceA = true) :
    trimSpace (pre ++ formatInt v ++ post) = formatInt v :=
  trimSpace_pad pre post _ (formatInt_ne_nil v) (fun c hc => intChar_not_space (formatInt_chars v c hc)) hpre hpost

theorem parseInt_eq_some_iff {b : Nat} {s : Str} {v : Int} :
    parseInt b s = some v ↔ parseIntLit s = some v ∧ -(2 ^ (b - 1) : Int) ≤ v ∧ v < (2 ^ (b - 1) : Int) := by
  unfold parseInt
  cases parseIntLit s with
  | none => simp
  | some w =>
    simp only [Option.ite_none_right_eq_some, Option.some.injEq]
    exact ⟨fun ⟨h, e⟩ => ⟨e, e ▸ h⟩, fun ⟨e, h⟩ => ⟨e ▸ h, e⟩⟩

theorem parseUint_eq_some_iff {b : Nat} {s : Str} {n : Nat} :
    parseUint b s = some n ↔ parseUintLit s = some n ∧ n < 2 ^ b := by
  unfold parseUint
  cases parseUintLit s with
  | none => simp
  | some w =>
    simp only [Option.ite_none_right_eq_some, Option.some.injEq]
    exact ⟨fun ⟨h, e⟩ => ⟨e, e ▸ h⟩, fun ⟨e, h⟩ => ⟨e ▸ h, e⟩⟩

/-- the literal an integer is read from: signed kinds accept a sign, unsigned kinds do not -/
def litOf (signed : Bool) (s : Str) : Option Int := if signed then parseIntLit s else (parseUintLit s).map Int.ofNat

/-- the range of the integers of a width -/
def Fits (signed : Bool) (bits : Nat) (v : Int) : Prop :=
  if signed then -(2 ^ (bits - 1) : Int) ≤ v ∧ v < (2 ^ (bits - 1) : Int) else 0 ≤ v ∧ v < (2 ^ bits : Int)

/-- strconv.ParseInt / ParseUint with base 0 and a bit size -/
def readInt (signed : Bool) (bits : Nat) (s : Str) : Option Int :=
  if signed then parseInt bits s else (parseUint bits s).map Int.ofNat

theorem ofNat_lt_two_pow (n bits : Nat) : Int.ofNat n < (2 : Int) ^ bits ↔ n < 2 ^ bits := by
  show ((n : Nat) : Int) < _ ↔ _
  exact_mod_cast Iff.rfl

theorem readInt_eq_some_iff {sg : Bool} {bits : Nat} {s : Str} {v : Int} :
    readInt sg bits s = some v ↔ litOf sg s = some v ∧ Fits sg bits v := by
  cases sg
  · simp only [readInt, litOf, Fits, Bool.false_eq_true, if_false, Option.map_eq_some_iff, parseUint_eq_some_iff]
    constructor
    · rintro ⟨n, ⟨hl, hn⟩, rfl⟩
      exact ⟨⟨n, hl, rfl⟩, Int.natCast_nonneg n, (ofNat_lt_two_pow n bits).2 hn⟩
    · rintro ⟨⟨n, hl, rfl⟩, _, hn⟩
      exact ⟨n, ⟨hl, (ofNat_lt_two_pow n bits).1 hn⟩, rfl⟩
  · simp only [readInt, litOf, Fits, if_true, parseInt_eq_some_iff]

theorem inRange_iff (k : IntKind) (v : Int) : k.inRange v = true ↔ Fits k.signed k.bits v := by
  cases hs : k.signed <;> simp [IntKind.inRange, Fits, hs]

theorem litOf_parseIntLit {sg : Bool} {s : Str} {v : Int} (h : litOf sg s = some v) : parseIntLit s = some v := by
  cases sg
  · obtain ⟨n, hn, rfl⟩ := Option.map_eq_some_iff.1 h
    exact parseIntLit_of_parseUintLit hn
  · exact h

theorem litOf_formatInt {sg : Bool} {bits : Nat} {v : Int} (h : Fits sg bits v) : litOf sg (formatInt v) = some v := by
  cases sg
  · have h0 : ¬ v < 0 := by have := h.1; omega
    simp [litOf, formatInt, h0, parseUintLit_formatNat]; omega
  · exact parseIntLit_formatInt v

theorem _root_.Dials.FlagSrc.bits_le_64 (k : IntKind) : k.bits ≤ 64 := by cases k <;> decide
theorem _root_.Dials.FlagSrc.pow_bits_le (k : IntKind) : (2 : Int) ^ (k.bits - 1) ≤ 2 ^ 63 := by cases k <;> decide
theorem _root_.Dials.FlagSrc.pow_bits_le_nat (k : IntKind) : (2 : Nat) ^ k.bits ≤ 2 ^ 64 := by cases k <;> decide

/-- every integer kind fits in the 64 bits `parseNumber` parses with -/
theorem Fits.to64 {k : IntKind} {v : Int} (h : Fits k.signed k.bits v) : Fits k.signed Facts.parseNumberBits v := by
  have h1 := FlagSrc.pow_bits_le k
  have h2 : (2 : Int) ^ k.bits ≤ 2 ^ 64 := by exact_mod_cast FlagSrc.pow_bits_le_nat k
  cases hs : k.signed <;> simp only [Fits, hs, Facts.parseNumberBits, if_true, if_false, Bool.false_eq_true] at h ⊢ <;> omega

/-- `parseNumber`: read with 64 bits, then the overflow check of the kind's width -/
theorem parseNumber_eq (k : IntKind) (s : Str) :
    parseNumber k s = match readInt k.signed Facts.parseNumberBits s with
      | some v => if k.inRange v then .ok v else .err "overflow"
      | none => .err "number" := by
  cases hs : k.signed <;> simp only [parseNumber, readInt, hs, if_true, if_false, Bool.false_eq_true]
  · cases parseUint Facts.parseNumberBits s <;> rfl
  · rfl

theorem parseNumber_eq_ok_iff {k : IntKind} {s : Str} {v : Int} :
    parseNumber k s = .ok v ↔ litOf k.signed s = some v ∧ k.inRange v = true := by
  rw [parseNumber_eq]
  constructor
  · intro h
    split at h
    · rename_i w hw
      split at h
      · cases h; exact ⟨(readInt_eq_some_iff.1 hw).1, ‹_›⟩
      · cases h
    · cases h
  · rintro ⟨hl, hr⟩
    rw [readInt_eq_some_iff.2 ⟨hl, ((inRange_iff k v).1 hr).to64⟩]
    simp [hr]

/-- `parseNumber` has no panic: what it does not accept is an error -/
theorem parseNumber_err_of_not_ok {k : IntKind} {s : Str} (h : ∀ v, parseNumber k s ≠ .ok v) : ∃ e, parseNumber k s = .err e := by
  cases hp : parseNumber k s with
  | ok v => exact absurd hp (h v)
  | err e => exact ⟨e, rfl⟩
  | panic c =>
    rw [parseNumber_eq] at hp
    split at hp
    · split at hp <;> cases hp
    · cases hp

/-- one step of the `foldr` in `parseIntSlice`: an element is read with the element kind's own width -/
def sliceStep (k : IntKind) (p : Str) : Outcome (List Int) → Outcome (List Int)
  | .ok vs =>
    match readInt k.signed k.bits (trimSpace p) with
    | some v => .ok (v :: vs)
    | none => .err "element"
  | e => e

theorem parseIntSlice_eq (k : IntKind) (s : Str) :
    parseIntSlice k s =
      if Facts.intSliceEmptyOk && s.isEmpty then .ok [] else (splitComma s []).foldr (sliceStep k) (.ok []) := by
  unfold parseIntSlice
  congr
  funext p acc
  cases acc with
  | ok vs =>
    cases hs : k.signed <;> simp only [sliceStep, readInt, hs, if_true, if_false, Bool.false_eq_true]
    · cases parseUint k.bits (trimSpace p) <;> rfl
    · rfl
  | _ => rfl

theorem parseIntSlice_nonempty (k : IntKind) (s : Str) (h : s ≠ []) :
    parseIntSlice k s = (splitComma s []).foldr (sliceStep k) (.ok []) := by
  have : s.isEmpty = false := by cases s <;> simp_all
  simp [parseIntSlice_eq, this]

theorem sliceStep_elem (k : IntKind) (v : Int) (hv : k.inRange v = true) (p : Str) (vs : List Int)
    (hp : trimSpace p = formatInt v) :
    sliceStep k p (.ok vs) = .ok (v :: vs) := by
  have hf := (inRange_iff k v).1 hv
  rw [sliceStep, hp, readInt_eq_some_iff.2 ⟨litOf_formatInt hf, hf⟩]

theorem foldr_sliceStep_format (k : IntKind) (vs : List Int) (hv : ∀ v ∈ vs, k.inRange v = true) :
    (vs.map formatInt).foldr (sliceStep k) (.ok []) = .ok vs := by
  induction vs with
  | nil => rfl
  | cons v vs ih =>
    simp only [List.map_cons, List.foldr_cons]
    rw [ih (fun w hw => hv w (by simp [hw]))]
    exact sliceStep_elem k v (hv v (by simp)) _ _
      (by simpa using trimSpace_formatInt_pad v [] [] rfl rfl)

theorem foldr_sliceStep_sound (k : IntKind) (parts : List Str) :
    ∀ vs, parts.foldr (sliceStep k) (.ok []) = .ok vs → ∀ v ∈ vs, k.inRange v = true := by
  induction parts with
  | nil => intro vs h; cases h; simp
  | cons p ps ih =>
    intro vs h
    simp only [List.foldr_cons] at h
    cases hacc : ps.foldr (sliceStep k) (.ok []) with
    | ok vs' =>
      rw [hacc, sliceStep] at h
      split at h
      · rename_i v hr
        cases h
        intro w hw
        rcases List.mem_cons.1 hw with rfl | hw
        · exact (inRange_iff k _).2 (readInt_eq_some_iff.1 hr).2
        · exact ih vs' hacc w hw
      · cases h
    | err c => rw [hacc] at h; cases h
    | panic c => rw [hacc] at h; cases h

/-- the element width is enforced per element -/
theorem parseIntSlice_sound {k : IntKind} {s : Str} {vs : List Int} (h : parseIntSlice k s = .ok vs) :
    ∀ v ∈ vs, k.inRange v = true := by
  rw [parseIntSlice_eq] at h
  split at h
  · cases h; simp
  · exact foldr_sliceStep_sound k _ vs h

theorem joinComma_ne_nil (w : Str) (ws : List Str) (h : w ≠ []) : joinComma (w :: ws) ≠ [] := by
  cases ws with
  | nil => exact h
  | cons w2 ws2 =>
    show w ++ ',' :: joinComma (w2 :: ws2) ≠ []
    simp

end Dials.Parse
