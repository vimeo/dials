/-
Every byte string - valid UTF-8 or not, printable or not - comes back from its quoted form: the quoted form of any
item list is scanned as one string token whose value is the items' bytes (Model/QuoteItems.lean).
-/
import DialsModel.Model.QuoteItems
import DialsModel.Lemmas.Scan
import DialsModel.Lemmas.Chars

namespace Dials.Parse
open Dials

theorem high_ne (c d : Char) (hc : 128 ≤ c.toNat) (hd : d.toNat < 128) : (c == d) = false :=
  beq_false_of_toNat_ne (by omega)

theorem run_high (l : List Char) (h : ∀ c ∈ l, 128 ≤ c.toNat) :
    runScan '"' .normal l = some (.normal, l.length) ∧ runUnq '"' .normal l = some (.normal, l) := by
  induction l with
  | nil => exact ⟨rfl, rfl⟩
  | cons c cs ih =>
    have hc := h c (by simp)
    have := ih fun x hx => h x (by simp [hx])
    simp [runScan, runUnq, scanStep, unqStep, high_ne c '"' hc (by decide), high_ne c '\n' hc (by decide),
      high_ne c '\\' hc (by decide), this.1, this.2, Nat.add_comm]

theorem ofNat_high (n : Nat) (h : 128 ≤ n ∧ n < 256) : 128 ≤ (Char.ofNat n).toNat := by
  rw [toNat_ofNat_lt n (by omega)]
  exact h.1

theorem validRune_le {r : Nat} (h : validRune r = true) : r ≤ 0x10FFFF := by
  simp only [validRune, Bool.or_eq_true, Bool.and_eq_true, decide_eq_true_eq] at h
  omega

theorem encodeRune_high (r : Nat) (h : 128 ≤ r) (hv : validRune r = true) : ∀ c ∈ encodeRune r, 128 ≤ c.toNat := by
  have hr := validRune_le hv
  intro c hc
  simp only [encodeRune, show ¬ r < 0x80 by omega, if_false] at hc
  split at hc
  · simp only [List.mem_cons, List.not_mem_nil, or_false] at hc
    rcases hc with rfl | rfl <;> exact ofNat_high _ (by omega)
  · split at hc
    · simp only [List.mem_cons, List.not_mem_nil, or_false] at hc
      rcases hc with rfl | rfl | rfl <;> exact ofNat_high _ (by omega)
    · simp only [List.mem_cons, List.not_mem_nil, or_false] at hc
      rcases hc with rfl | rfl | rfl | rfl <;> exact ofNat_high _ (by omega)

theorem hexDigit_table : ∀ d : Fin 16,
    hexValS (hexDigitL d.val) = some d.val ∧ digitOK 16 (hexDigitL d.val) = true ∧ hexDigitL d.val ≠ NUL := by
  decide +kernel

theorem hexDigit_val (d : Nat) (h : d < 16) :
    hexValS (hexDigitL d) = some d ∧ digitOK 16 (hexDigitL d) = true ∧ hexDigitL d ≠ NUL :=
  hexDigit_table ⟨d, h⟩

/-- the scanner over `k` hexadecimal digits when `k + j` are still required (`j ≥ 1`: more follow) -/
theorem runScan_hex (k : Nat) : ∀ (j v : Nat), 1 ≤ j →
    runScan '"' (.dig 16 (k + j)) (hexDigitsL k v) = some (.dig 16 j, 0) := by
  induction k with
  | zero => intro j v _; simp [hexDigitsL, runScan]
  | succ k ih =>
    intro j v hj
    have h1 := ih (j + 1) (v / 16) (by omega)
    have h2 : runScan '"' (.dig 16 (j + 1)) [hexDigitL (v % 16)] = some (.dig 16 j, 0) := by
      simp [runScan, scanStep, (hexDigit_val (v % 16) (by omega)).2.1, show ¬ j + 1 ≤ 1 by omega]
    rw [Nat.add_right_comm]
    exact runScan_append '"' _ _ _ _ _ _ _ h1 h2

/-- the unquoter over `k` hexadecimal digits when `k + j` are still required: the accumulator takes them in -/
theorem runUnq_hex (kind : Char) (k : Nat) : ∀ (j v acc : Nat), 1 ≤ j →
    runUnq '"' (.dig kind 16 (k + j) acc) (hexDigitsL k v) = some (.dig kind 16 j (acc * 16 ^ k + v % 16 ^ k), []) := by
  induction k with
  | zero => intro j v acc _; simp [hexDigitsL, runUnq, Nat.mod_one]
  | succ k ih =>
    intro j v acc hj
    have h1 := ih (j + 1) (v / 16) acc (by omega)
    have hd := hexDigit_val (v % 16) (by omega)
    have h2 : runUnq '"' (.dig kind 16 (j + 1) (acc * 16 ^ k + v / 16 % 16 ^ k)) [hexDigitL (v % 16)]
        = some (.dig kind 16 j ((acc * 16 ^ k + v / 16 % 16 ^ k) * 16 + v % 16), []) := by
      simp [runUnq, unqStep, hd.1, hd.2.1, show ¬ j + 1 ≤ 1 by omega]
    rw [shift_digit 16 acc v k] at h2
    rw [Nat.add_right_comm]
    exact runUnq_append '"' _ _ _ _ _ _ _ h1 h2

/-- a `\x`, `\u` or `\U` escape of `K + 1` digits: both machines are back in the normal state after it, one character
denoted, the bytes being what the unquoter's last step makes of the digits' value -/
theorem hexEscape_passes (kind : Char) (K v : Nat) (out : List Char)
    (hs : scanStep '"' .bs kind = .next (.dig 16 (K + 1)) 0)
    (hu : unqStep '"' .bs kind = .next (.dig kind 16 (K + 1) 0) [])
    (hlast : unqStep '"' (.dig kind 16 1 (v / 16 % 16 ^ K)) (hexDigitL (v % 16)) = .next .normal out) :
    Passes ('\\' :: kind :: hexDigitsL (K + 1) v) 1 out := by
  have hd := hexDigit_val (v % 16) (by omega)
  have s1 := runScan_hex K 1 (v / 16) (by omega)
  have s2 : runScan '"' (.dig 16 1) [hexDigitL (v % 16)] = some (.normal, 1) := by
    simp [runScan, scanStep, hd.2.1]
  have u1 := runUnq_hex kind K 1 (v / 16) 0 (by omega)
  have u2 : runUnq '"' (.dig kind 16 1 (0 * 16 ^ K + v / 16 % 16 ^ K)) [hexDigitL (v % 16)] = some (.normal, out) := by
    simp [runUnq, hlast]
  have s3 : runScan '"' (.dig 16 (K + 1)) (hexDigitsL (K + 1) v) = some (.normal, 1) :=
    runScan_append '"' _ _ _ _ _ _ _ s1 s2
  have u3 : runUnq '"' (.dig kind 16 (K + 1) 0) (hexDigitsL (K + 1) v) = some (.normal, out) :=
    runUnq_append '"' _ _ _ _ _ _ _ u1 u2
  have es : scanStep '"' .normal '\\' = .next .bs 0 := by decide
  have eu : unqStep '"' .normal '\\' = .next .bs [] := by decide
  exact ⟨by simp [runScan, es, hs, s3], by simp [runUnq, eu, hu, u3]⟩

theorem hexDigitsL_noNUL (k : Nat) : ∀ v, NUL ∉ hexDigitsL k v := by
  induction k with
  | zero => intro v; simp [hexDigitsL]
  | succ k ih =>
    intro v
    simpa [hexDigitsL, ih (v / 16)] using (hexDigit_val (v % 16) (by omega)).2.2.symm

theorem item_passes (i : QItem) (h : i.ok) : ∃ n, Passes i.quoted n i.bytes := by
  cases i with
  | ascii c => exact ⟨1, quoteChar_passes c h⟩
  | bad b =>
    have hd := hexDigit_val (b % 16) (by omega)
    refine ⟨1, hexEscape_passes 'x' 1 b _ (by decide) (by decide) ?_⟩
    have hv : b / 16 % 16 ^ 1 * 16 + b % 16 = b := by have := h.2; omega
    simp [unqStep, hd.1, hd.2.1, hv, QItem.bytes]
  | print r => exact ⟨_, run_high _ (encodeRune_high r h.1 h.2)⟩
  | esc r =>
    obtain ⟨h1, h2⟩ := h
    have hr := validRune_le h2
    have hd := hexDigit_val (r % 16) (by omega)
    simp only [QItem.quoted, QItem.bytes]
    split
    · refine ⟨1, hexEscape_passes 'u' 3 r _ (by decide) (by decide) ?_⟩
      have hv : r / 16 % 16 ^ 3 * 16 + r % 16 = r := by omega
      simp [unqStep, hd.1, hd.2.1, hv, h2]
    · refine ⟨1, hexEscape_passes 'U' 7 r _ (by decide) (by decide) ?_⟩
      have hv : r / 16 % 16 ^ 7 * 16 + r % 16 = r := by omega
      simp [unqStep, hd.1, hd.2.1, hv, h2]

theorem item_noNUL (i : QItem) (h : i.ok) : NUL ∉ i.quoted := by
  cases i with
  | ascii c => exact quoteChar_noNUL c h
  | bad b => simpa [QItem.quoted, NUL] using hexDigitsL_noNUL 2 b
  | print r => exact fun hx => absurd (encodeRune_high r h.1 h.2 NUL hx) (by decide)
  | esc r =>
    simp only [QItem.quoted]
    split
    · simpa [NUL] using hexDigitsL_noNUL 4 r
    · simpa [NUL] using hexDigitsL_noNUL 8 r

theorem items_passes (is : List QItem) (h : ∀ i ∈ is, i.ok) : ∃ n, Passes (is.flatMap QItem.quoted) n (itemsBytes is) :=
  Passes.flatMap _ _ is fun i hi => item_passes i (h i hi)

theorem scanTok_quoteItems (m : Bool) (is : List QItem) (h : ∀ i ∈ is, i.ok) (rest : List Char) :
    ∃ cs, quoteItems is = '"' :: cs ∧ scanTok m '"' (cs ++ rest) = .tok (.str (some (itemsBytes is))) rest :=
  have ⟨_, hp⟩ := items_passes is h
  ⟨_, rfl, by simpa using scanTok_passes m hp rest⟩

theorem quoteItems_noNUL (is : List QItem) (h : ∀ i ∈ is, i.ok) : NUL ∉ quoteItems is := by
  have : ∀ i ∈ is, NUL ∉ i.quoted := fun i hi => item_noNUL i (h i hi)
  simpa [quoteItems, NUL, List.mem_flatMap] using this

theorem quoteItems_ascii (s : S) : quoteItems (s.map QItem.ascii) = quote s ∧ itemsBytes (s.map QItem.ascii) = s := by
  constructor
  · simp [quoteItems, quote, quoteBody, List.flatMap_map, QItem.quoted]
  · induction s with
    | nil => rfl
    | cons c cs ih => simp [itemsBytes, QItem.bytes] at ih ⊢; exact ih

theorem ascii_items_ok (s : S) (h : s.all isAscii = true) : ∀ i ∈ s.map QItem.ascii, i.ok := by
  simpa [QItem.ok] using h

end Dials.Parse
