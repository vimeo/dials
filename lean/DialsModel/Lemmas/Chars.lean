/- ASCII character lemmas used by the string-model proofs. -/
import DialsModel.Model.Basic

namespace Dials

theorem toNat_ofNat_lt (n : Nat) (h : n < 0xD800) : (Char.ofNat n).toNat = n := by
  have : n.isValidChar := by left; omega
  simp [Char.ofNat, this, Char.ofNatAux, Char.toNat]

theorem isLowerA_iff (c : Char) : isLowerA c = true ↔ 97 ≤ c.toNat ∧ c.toNat ≤ 122 := by
  simp [isLowerA]
theorem isUpperA_iff (c : Char) : isUpperA c = true ↔ 65 ≤ c.toNat ∧ c.toNat ≤ 90 := by
  simp [isUpperA]
theorem isDigitA_iff (c : Char) : isDigitA c = true ↔ 48 ≤ c.toNat ∧ c.toNat ≤ 57 := by
  simp [isDigitA]

theorem toUpperA_toNat_of_lower (c : Char) (h : isLowerA c = true) : (toUpperA c).toNat = c.toNat - 32 := by
  have ⟨h1, h2⟩ := (isLowerA_iff c).1 h
  simp only [toUpperA, h, if_true]
  exact toNat_ofNat_lt _ (by omega)

theorem isUpperA_toUpperA (c : Char) (h : isLowerA c = true) : isUpperA (toUpperA c) = true := by
  have ⟨h1, h2⟩ := (isLowerA_iff c).1 h
  rw [isUpperA_iff, toUpperA_toNat_of_lower c h]; omega

theorem toLowerA_toUpperA (c : Char) (h : isLowerA c = true) : toLowerA (toUpperA c) = c := by
  have ⟨h1, h2⟩ := (isLowerA_iff c).1 h
  simp only [toLowerA, isUpperA_toUpperA c h, if_true, toUpperA_toNat_of_lower c h]
  rw [show c.toNat - 32 + 32 = c.toNat by omega]
  exact Char.ofNat_toNat c

/-! The three classes are pairwise disjoint ranges of `toNat`. -/

theorem not_upper_of_lower (c : Char) (h : isLowerA c = true) : isUpperA c = false := by
  have := (isLowerA_iff c).1 h
  simp [isUpperA]; omega

theorem not_lower_of_upper (c : Char) (h : isUpperA c = true) : isLowerA c = false := by
  have := (isUpperA_iff c).1 h
  simp [isLowerA]; omega

theorem not_digit_of_lower (c : Char) (h : isLowerA c = true) : isDigitA c = false := by
  have := (isLowerA_iff c).1 h
  simp [isDigitA]; omega

theorem not_digit_of_upper (c : Char) (h : isUpperA c = true) : isDigitA c = false := by
  have := (isUpperA_iff c).1 h
  simp [isDigitA]; omega

theorem not_upper_of_digit (c : Char) (h : isDigitA c = true) : isUpperA c = false := by
  have := (isDigitA_iff c).1 h
  simp [isUpperA]; omega

theorem not_lower_of_digit (c : Char) (h : isDigitA c = true) : isLowerA c = false := by
  have := (isDigitA_iff c).1 h
  simp [isLowerA]; omega

theorem toLowerA_of_not_upper (c : Char) (h : isUpperA c = false) : toLowerA c = c := by
  simp [toLowerA, h]
theorem toUpperA_of_not_lower (c : Char) (h : isLowerA c = false) : toUpperA c = c := by
  simp [toUpperA, h]

theorem ne_of_toNat_ne {c d : Char} (h : c.toNat ≠ d.toNat) : c ≠ d := fun e => h (e ▸ rfl)

theorem beq_false_of_toNat_ne {c d : Char} (h : c.toNat ≠ d.toNat) : (c == d) = false :=
  beq_eq_false_iff_ne.2 (ne_of_toNat_ne h)

theorem lower_ne_underscore (c : Char) (h : isLowerA c = true) : (c == '_') = false :=
  have := (isLowerA_iff c).1 h
  beq_false_of_toNat_ne (by simp; omega)
theorem lower_ne_dash (c : Char) (h : isLowerA c = true) : (c == '-') = false :=
  have := (isLowerA_iff c).1 h
  beq_false_of_toNat_ne (by simp; omega)
theorem upper_ne_underscore (c : Char) (h : isUpperA c = true) : (c == '_') = false :=
  have := (isUpperA_iff c).1 h
  beq_false_of_toNat_ne (by simp; omega)
theorem digit_ne_underscore (c : Char) (h : isDigitA c = true) : (c == '_') = false :=
  have := (isDigitA_iff c).1 h
  beq_false_of_toNat_ne (by simp; omega)
theorem digit_ne_dash (c : Char) (h : isDigitA c = true) : (c == '-') = false :=
  have := (isDigitA_iff c).1 h
  beq_false_of_toNat_ne (by simp; omega)

/-! Positional notation: the low `p + 1` digits in base `B`, and taking in one more digit. -/

theorem mod_pow_succ (B v p : Nat) : v % B ^ (p + 1) = v % B + B * (v / B % B ^ p) := by
  rw [Nat.pow_succ, Nat.mul_comm, Nat.mod_mul]

theorem shift_digit (B a v p : Nat) : (a * B ^ p + v / B % B ^ p) * B + v % B = a * B ^ (p + 1) + v % B ^ (p + 1) := by
  rw [mod_pow_succ, Nat.pow_succ, Nat.add_mul, Nat.mul_assoc, Nat.mul_comm B]
  omega

end Dials
