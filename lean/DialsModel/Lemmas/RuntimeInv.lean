/-
Inductive invariants of the runtime model for C04 and C05: the view is the last installed version and
serials count installs (`InvA`), everything a program observes is a version (`InvB`), observed serials
only go up (`InvC`).  Lemmas/RuntimeEnable.lean has invariants of its own under the same three names,
Lemmas/RuntimeCb.lean another `InvB` and Lemmas/RuntimeProgress.lean another `CbOk`, so these files are never
imported together.
-/
import DialsModel.Lemmas.RuntimeFrame

namespace Dials.Runtime

/-- the observations that matter for C04/C05 -/
def rel : Obs → Bool
  | .install _ _ => true
  | .gotUpd _ _ _ => true
  | .seen _ _ => true
  | .evRecv _ _ => true
  | .enter _ => true
  | .ret _ (.enableOk _) => true
  | _ => false

def State.rlog (s : State) : List Obs := s.log.filter rel

def slotsOf (sl : Slots) (l : List Obs) : Slots :=
  l.foldr (fun o acc => match o with | .gotUpd src v _ => setSlot acc src v | _ => acc) sl

def PlainExt (l lg : List Obs) : Prop := ∃ ext, lg = ext ++ l ∧ ext.all plain = true

theorem PlainExt.refl (l : List Obs) : PlainExt l l := ⟨[], rfl, rfl⟩

theorem PlainExt.append {l lg new : List Obs} (hn : new.all plain = true) (h : PlainExt l lg) :
    PlainExt l (new ++ lg) := by
  obtain ⟨ext, rfl, he⟩ := h
  exact ⟨new ++ ext, (List.append_assoc ..).symm, by rw [List.all_append, hn, he]; rfl⟩

theorem PlainExt.cons {l lg : List Obs} {o : Obs} (ho : plain o = true) (h : PlainExt l lg) : PlainExt l (o :: lg) :=
  h.append (new := [o]) (by rw [List.all_cons, ho]; rfl)

theorem installsOf_plain {ext : List Obs} (he : ext.all plain = true) : installsOf ext = [] := by
  refine List.filterMap_eq_nil_iff.mpr fun o ho => ?_
  have := List.all_eq_true.mp he o ho
  cases o <;> first | rfl | cases this

theorem PlainExt.installs {l lg : List Obs} (h : PlainExt l lg) : installsOf lg = installsOf l := by
  obtain ⟨ext, rfl, he⟩ := h
  rw [installsOf, List.filterMap_append, ← installsOf, ← installsOf, installsOf_plain he, List.nil_append]

theorem PlainExt.slots {l lg : List Obs} (h : PlainExt l lg) (sl : Slots) : slotsOf sl lg = slotsOf sl l := by
  obtain ⟨ext, rfl, he⟩ := h
  rw [slotsOf, List.foldr_append]
  induction ext with
  | nil => rfl
  | cons o ext ih =>
    rw [List.all_cons, Bool.and_eq_true] at he
    rw [List.foldr_cons, ih he.2]
    cases o <;> first | rfl | cases he.1

theorem PlainExt.mem_install {l lg : List Obs} (h : PlainExt l lg) {v : Version} {k : Bool}
    (hm : Obs.install v k ∈ lg) : Obs.install v k ∈ l := by
  obtain ⟨ext, rfl, he⟩ := h
  refine (List.mem_append.mp hm).resolve_left fun hx => ?_
  cases List.all_eq_true.mp he _ hx

def MonPc.plain : MonPc → Bool
  | .top | .sel | .gotValue _ _ _ | .replyErr _ _ | .gotSrcErr _ | .submitSrcErr _ | .gotDone _
  | .gotEnable _ _ | .exit | .finished => true
  | _ => false

theorem plain_of_wake {m : MonPc} (h : m.idle = true ∨ monWake m = true) : m.plain = true := by
  cases m <;> first | rfl | (rcases h with h | h <;> cases h)

def Fresh (W : World) (slots : Slots) (skip : Bool) (view : Version) : Prop :=
  W.stackOk slots = true → (skip = true ∨ W.valid slots = true) → view.cfg = slots

def MonFacts (W : World) (slots : Slots) (skip : Bool) (view : Version) : MonPc → Prop
  | .verifyUpd sl' _ => sl' = slots ∧ W.stackOk sl' = true ∧ skip = false
  | .store sl' _ => sl' = slots ∧ W.stackOk sl' = true ∧ (skip = false → W.valid sl' = true)
  | .submitErr k new _ =>
    (k = .stack ∧ new = none ∧ W.stackOk slots = false) ∨
    (k = .verify ∧ new = some slots ∧ W.stackOk slots = true ∧ W.valid slots = false ∧ skip = false)
  | .events _ _ => view.cfg = slots
  | .replyOk _ _ => view.cfg = slots
  | .submitNew _ => view.cfg = slots
  | .verifyEnable _ _ => skip = true ∧ Fresh W slots skip view
  | .enableReply _ _ _ noop => (noop = false → skip = true) ∧ Fresh W slots skip view
  | _ => Fresh W slots skip view

theorem MonFacts_plain {W : World} {slots : Slots} {skip : Bool} {view : Version} {pc : MonPc}
    (h : pc.plain = true) : MonFacts W slots skip view pc ↔ Fresh W slots skip view := by
  cases pc <;> first | exact Iff.rfl | cases h

theorem Fresh.of_eq {W : World} {slots : Slots} {skip : Bool} {view : Version} (h : view.cfg = slots) :
    Fresh W slots skip view := fun _ _ => h

def SerOk : List Version → Prop
  | [] => True
  | v :: l => v.serial = l.length + 1 ∧ SerOk l

structure InvA (W : World) (P : Params) (sl : Slots) (s : State) : Prop where
  hP : s.P = P
  skipDelay : s.skipVerify = true → P.delay = true
  viewLast : (installsOf s.log).head?.getD ⟨0, sl⟩ = s.view
  viewSer : (installsOf s.log).length = s.view.serial
  serOk : SerOk (installsOf s.log)
  slotsEq : slotsOf sl s.log = s.slots
  instOk : ∀ v skip, Obs.install v skip ∈ s.log → W.stackOk v.cfg = true ∧ (skip = false → W.valid v.cfg = true)
  monF : MonFacts W s.slots s.skipVerify s.view s.mon

theorem InvA_init (W : World) (P : Params) (sl : Slots) (w : List Bool) : InvA W P sl (initState P sl w) :=
  ⟨rfl, id, rfl, rfl, trivial, rfl, nofun, fun _ _ => rfl⟩

theorem InvA.of_plain {W : World} {P : Params} {sl : Slots} {s s' : State} (hi : InvA W P sl s)
    (hP : s'.P = s.P) (hv : s'.view = s.view) (hs : s'.slots = s.slots) (hl : PlainExt s.log s'.log)
    (hk : s'.skipVerify = true → s.skipVerify = true)
    (hm : MonFacts W s.slots s'.skipVerify s.view s'.mon) : InvA W P sl s' :=
  ⟨hP.trans hi.hP, fun h => hi.skipDelay (hk h), by rw [hl.installs, hv]; exact hi.viewLast,
    by rw [hl.installs, hv]; exact hi.viewSer, by rw [hl.installs]; exact hi.serOk,
    by rw [hl.slots, hs]; exact hi.slotsEq, fun v k h => hi.instOk v k (hl.mem_install h),
    by rw [hv, hs]; exact hm⟩

theorem InvA.frame {W : World} {P : Params} {sl : Slots} {s s' : State} (hi : InvA W P sl s)
    (hf : Frame clientObs s s') : InvA W P sl s' := by
  obtain ⟨new, e, hn⟩ := hf.log
  refine hi.of_plain hf.P hf.view hf.slots ⟨new, e, all_plain_of_clientObs hn⟩ (hf.skip ▸ id) ?_
  rw [hf.skip]
  rcases hf.mon with e | ⟨hi', hw⟩
  · rw [e]; exact hi.monF
  · exact (MonFacts_plain (plain_of_wake hw)).2 ((MonFacts_plain (plain_of_wake (.inl hi'))).1 hi.monF)

theorem InvA.of_eff {W : World} {P : Params} {sl : Slots} {s s' : State} {sk : Bool} {m : MonPc} {lg : List Obs}
    (hi : InvA W P sl s) (eff : MonEff s s' s.view s.slots sk m lg) (hl : PlainExt s.log lg)
    (hk : sk = true → s.skipVerify = true) (hm : MonFacts W s.slots sk s.view m) : InvA W P sl s' :=
  hi.of_plain eff.P eff.view eff.slots (eff.log ▸ hl) (eff.skip ▸ hk) (by rw [eff.skip, eff.mon]; exact hm)

theorem InvA.next {W : World} {P : Params} {sl : Slots} {s s' : State} {l : Label} (hi : InvA W P sl s)
    (h : step W s l = some s') : InvA W P sl s' := by
  rcases step_cases h with hf | ⟨ch, rfl, hb⟩
  · exact hi.frame hf
  have hf := hi.monF
  cases hb with
  | gotValue src v reply hm eff =>
    refine ⟨eff.P.trans hi.hP, fun hs => hi.skipDelay (eff.skip ▸ hs), ?_, ?_, ?_, ?_, ?_, ?_⟩
    · rw [eff.log, eff.view]; exact hi.viewLast
    · rw [eff.log, eff.view]; exact hi.viewSer
    · rw [eff.log]; exact hi.serOk
    · rw [eff.log, eff.slots]; exact congrArg (setSlot · src v) hi.slotsEq
    · intro u k hu
      rw [eff.log] at hu
      exact hi.instOk u k ((List.mem_cons.mp hu).resolve_left nofun)
    · rw [eff.slots, eff.skip, eff.view, eff.mon]
      cases hs : W.stackOk (setSlot s.slots src v)
      · exact .inl ⟨rfl, rfl, hs⟩
      · cases hk : s.skipVerify
        · exact ⟨rfl, hs, rfl⟩
        · exact ⟨rfl, hs, nofun⟩
  | verifyUpd sl' reply hm eff =>
    rw [hm] at hf
    refine hi.of_eff eff (.cons rfl (.refl _)) id ?_
    cases hv : W.valid sl'
    · exact .inr ⟨rfl, hf.1 ▸ rfl, hf.1 ▸ hf.2.1, hf.1 ▸ hv, hf.2.2⟩
    · exact ⟨hf.1, hf.2.1, fun _ => hv⟩
  | submitErr k new reply hm o ho eff =>
    rw [hm] at hf
    refine hi.of_eff eff (.cons rfl (.cons (by rcases ho with rfl | rfl <;> rfl) (.refl _))) id ?_
    have : Fresh W s.slots s.skipVerify s.view := by
      intro hs hv
      rcases hf with ⟨_, _, h1⟩ | ⟨_, _, _, h1, h2⟩
      · rw [h1] at hs; cases hs
      · rw [h1, h2] at hv; rcases hv with hv | hv <;> cases hv
    cases reply <;> exact this
  | replyErr k c hm new hn eff =>
    rw [hm] at hf
    exact hi.of_eff eff (((PlainExt.refl _).cons rfl).append (all_plain_of_clientObs hn)) id hf
  | store sl' reply hm eff =>
    rw [hm] at hf
    have hser := hi.viewSer
    refine ⟨eff.P.trans hi.hP, fun hs => hi.skipDelay (eff.skip ▸ hs), ?_, ?_, ?_, ?_, ?_, ?_⟩
    · rw [eff.log, eff.view]; rfl
    · rw [eff.log, eff.view]; exact congrArg (· + 1) hser
    · rw [eff.log]; exact ⟨congrArg (· + 1) hser.symm, hi.serOk⟩
    · rw [eff.log, eff.slots]; exact hi.slotsEq
    · intro u k hu
      rw [eff.log] at hu
      rcases List.mem_cons.mp hu with e | hu
      · cases e; exact hf.2
      · exact hi.instOk u k hu
    · rw [eff.slots, eff.skip, eff.view, eff.mon]; exact hf.1
  | events old reply hm eff =>
    rw [hm] at hf
    exact hi.of_eff eff (.refl _) id (by cases reply <;> exact hf)
  | replyOk old c hm new hn eff =>
    rw [hm] at hf
    exact hi.of_eff eff (((PlainExt.refl _).cons rfl).append (all_plain_of_clientObs hn)) id hf
  | submitNew old hm o ho eff =>
    rw [hm] at hf
    exact hi.of_eff eff (.cons (by rcases ho with rfl | rfl <;> rfl) (.refl _)) id (Fresh.of_eq hf)
  | gotSrcErr e hm eff =>
    rw [hm] at hf
    refine hi.of_eff eff ?_ id (by split <;> exact hf)
    split
    · exact .cons rfl (.refl _)
    · exact .refl _
  | submitSrcErr e hm o ho eff =>
    rw [hm] at hf
    exact hi.of_eff eff (.cons (by rcases ho with rfl | rfl <;> rfl) (.refl _)) id hf
  | gotDone src hm m hm' eff =>
    rw [hm] at hf
    exact hi.of_eff eff (.refl _) id (by rcases hm' with rfl | rfl <;> exact hf)
  | gotEnable c tok hm eff =>
    rw [hm] at hf
    refine hi.of_eff eff (.refl _) id ?_
    cases hk : s.skipVerify
    · exact ⟨nofun, hk ▸ hf⟩
    · exact ⟨rfl, hk ▸ hf⟩
  | verifyEnable c tok hm eff =>
    rw [hm] at hf
    exact hi.of_eff eff (.cons rfl (.refl _)) id ⟨fun _ => hf.1, hf.2⟩
  | enableReply c tok ok noop hm new hn eff =>
    rw [hm] at hf
    cases noop with
    | true => exact hi.of_eff eff ((PlainExt.refl _).append (all_plain_of_clientObs hn)) id hf.2
    | false =>
      refine hi.of_eff eff (((PlainExt.refl _).cons rfl).append (all_plain_of_clientObs hn)) (fun _ => hf.1 rfl) ?_
      intro hs _
      exact hf.2 hs (.inl (hf.1 rfl))
  | exit hm eff =>
    rw [hm] at hf
    exact hi.of_eff eff (.cons rfl (.refl _)) id hf

theorem InvA_reachable {W : World} {P : Params} {sl : Slots} {w : List Bool} {s : State}
    (hr : Reachable W P sl w s) : InvA W P sl s :=
  reachable_induction (InvA_init W P sl w) (fun _ _ _ hi h => hi.next h) hr

theorem installs_eq (s : State) : s.installs = (installsOf s.log).reverse := by
  simp only [State.installs, State.history, installsOf, List.filterMap_reverse]

theorem mem_installs {s : State} {v : Version} : v ∈ s.installs ↔ v ∈ installsOf s.log := by
  rw [installs_eq, List.mem_reverse]

theorem mem_versions {s : State} {sl : Slots} {v : Version} (h : v = ⟨0, sl⟩ ∨ v ∈ installsOf s.log) :
    v ∈ s.versions sl :=
  List.mem_cons.mpr (h.imp id mem_installs.mpr)

theorem SerOk_getElem {I : List Version} (h : SerOk I) (i : Nat) (hi : i < I.reverse.length) :
    (I.reverse[i]).serial = i + 1 := by
  induction I generalizing i with
  | nil => simp at hi
  | cons v I ih =>
    simp only [List.reverse_cons, List.length_append, List.length_reverse, List.length_cons, List.length_nil] at hi
    simp only [List.reverse_cons]
    by_cases hlt : i < I.reverse.length
    · rw [List.getElem_append_left hlt]; exact ih h.2 i hlt
    · have : i = I.length := by simp at hlt; omega
      subst this
      simp [h.1]

theorem getLast_versions (sl : Slots) (I : List Version) (h : (⟨0, sl⟩ :: I.reverse : List Version) ≠ []) :
    (⟨0, sl⟩ :: I.reverse : List Version).getLast h = I.head?.getD ⟨0, sl⟩ := by
  cases I with
  | nil => rfl
  | cons v I => simp [List.getLast_cons]

theorem InvA.view_mem {W : World} {P : Params} {sl : Slots} {s : State} (inv : InvA W P sl s) :
    s.view = ⟨0, sl⟩ ∨ s.view ∈ installsOf s.log := by
  have h := inv.viewLast
  cases hI : installsOf s.log with
  | nil => rw [hI] at h; exact .inl h.symm
  | cons v I => rw [hI] at h; exact .inr (h ▸ List.mem_cons_self)

def CbEv.isNew : CbEv → Bool
  | .newCfg _ _ _ => true
  | _ => false

def CSt.ok : CSt → Bool
  | .sendCb ev _ => !ev.isNew
  | _ => true

/-- a client blocked on `cbch` never holds a new-config event, so the event that `admitCbSender` queues is `EvOk` -/
abbrev ClOk (cs : List (Nat × CSt)) : Prop := AllC (fun st => st.ok = true) cs

theorem ClOk.next {W : World} {s s' : State} {l : Label} (hc : ClOk s.clients) (h : Step W s l s') :
    ClOk s'.clients := by
  have r : ∀ r, (CSt.returned r).ok = true := fun _ => rfl
  cases h with
  | «begin» | ack => exact setC_all hc rfl
  | mon ch h => exact h.clients_all r (fun _ => rfl) (fun _ => rfl) hc
  | cb h => exact h.clients_all r (fun _ => rfl) hc
  | cancel ctx => exact cancelCtx_all r ctx hc
  | client c ch h =>
    cases h with
    | report | reportErr | done => exact offerW_all r (fun _ => rfl) (by rfl) c ch hc
    | register | unregister => exact offerCb_all r (by rfl) (by rfl) c ch hc
    | enable ctx _ _ => exact offerCtl_all (by rfl) (by rfl) (by rfl) c ch hc
    | _ => exact setC_all hc rfl

def EvOk (I : List Version) : CbEv → Prop
  | .newCfg _ new _ => new ∈ I
  | _ => True

def CallOk (I : List Version) : Call → Prop
  | .onNew _ new ser => (⟨ser, new⟩ : Version) ∈ I
  | .user _ _ new ser _ => (⟨ser, new⟩ : Version) ∈ I
  | .onErr _ _ _ => True

def CbPcOk (I : List Version) : CbPc → Prop
  | .got ev => EvOk I ev
  | .calls cs _ => ∀ c ∈ cs, CallOk I c
  | _ => True

def CbOk (I : List Version) (cb : CbPc) (cbch : List CbEv) : Prop := CbPcOk I cb ∧ ∀ ev ∈ cbch, EvOk I ev

def LastOk (I : List Version) (ser : Nat) (ver : Option Slots) : Prop :=
  ser = 0 ∨ ∃ cfg, ver = some cfg ∧ (⟨ser, cfg⟩ : Version) ∈ I

def ObsOkB (sl : Slots) (I : List Version) : Obs → Prop
  | .seen _ v => v = ⟨0, sl⟩ ∨ v ∈ I
  | .evRecv _ v => v ∈ I
  | .enter c => CallOk I c
  | .ret _ (.enableOk v) => v = ⟨0, sl⟩ ∨ v ∈ I
  | _ => True

def MonEvOk (I : List Version) (view : Version) : MonPc → Prop
  | .events _ _ => view ∈ I
  | .replyOk _ _ => view ∈ I
  | .submitNew _ => view ∈ I
  | _ => True

theorem EvOk_of_notNew {I : List Version} {ev : CbEv} (h : ev.isNew = false) : EvOk I ev := by
  cases ev <;> first | trivial | cases h

section mono
variable {I I' : List Version} (h : ∀ v ∈ I, v ∈ I')
include h

theorem EvOk_mono {ev : CbEv} (hev : EvOk I ev) : EvOk I' ev := by
  cases ev <;> first | trivial | exact h _ hev

theorem CallOk_mono {c : Call} (hc : CallOk I c) : CallOk I' c := by
  cases c <;> first | trivial | exact h _ hc

theorem CbOk_mono {cb : CbPc} {cbch : List CbEv} (hc : CbOk I cb cbch) : CbOk I' cb cbch := by
  refine ⟨?_, fun ev hev => EvOk_mono h (hc.2 ev hev)⟩
  cases cb with
  | got ev => exact EvOk_mono h hc.1
  | calls cs ev => exact fun c hcs => CallOk_mono h (hc.1 c hcs)
  | _ => trivial

theorem ObsOkB_mono {sl : Slots} {o : Obs} (ho : ObsOkB sl I o) : ObsOkB sl I' o := by
  cases o with
  | seen c v => exact ho.imp id (h v)
  | evRecv c v => exact h v ho
  | enter c => exact CallOk_mono h ho
  | ret c r => cases r <;> first | trivial | exact ho.imp id (h _)
  | _ => trivial

theorem LastOk_mono {ser : Nat} {ver : Option Slots} (hl : LastOk I ser ver) : LastOk I' ser ver :=
  hl.imp id fun ⟨cfg, e, hm⟩ => ⟨cfg, e, h _ hm⟩

end mono

theorem ObsOkB_of_not {sl : Slots} {I : List Version} {o : Obs} (h : observed o = false) : ObsOkB sl I o := by
  cases o with
  | ret c r => cases r <;> first | trivial | cases h
  | _ => first | trivial | cases h

theorem CbOk_enqueueCb {I : List Version} {s : State} {ev : CbEv} (h : CbOk I s.cb s.cbch) (hev : EvOk I ev) :
    CbOk I (enqueueCb s ev).cb (enqueueCb s ev).cbch := by
  unfold enqueueCb
  split
  · exact ⟨hev, h.2⟩
  · exact ⟨h.1, List.forall_mem_append.mpr ⟨h.2, List.forall_mem_singleton.mpr hev⟩⟩

theorem CbOk_trySubmit {I : List Version} {s : State} {ev : CbEv} {ch : Nat} (h : CbOk I s.cb s.cbch)
    (hev : EvOk I ev) : CbOk I (trySubmit s ev ch).cb (trySubmit s ev ch).cbch := by
  unfold trySubmit
  split
  · exact CbOk_enqueueCb h hev
  · exact h

theorem CbOk_offerCb {I : List Version} {s : State} {c : Nat} {ev : CbEv} {ctx ch : Nat} (h : CbOk I s.cb s.cbch)
    (hev : EvOk I ev) : CbOk I (offerCb s c ev ctx ch).cb (offerCb s c ev ctx ch).cbch := by
  have h' := CbOk_enqueueCb h hev
  unfold offerCb
  dsimp only
  split
  · exact h
  · split
    · split
      · rw [waitOr_shape]; exact h'
      · exact h'
      · exact h'
    · split <;> exact h

theorem callsFor_ok {I : List Version} {handles : List (Nat × Nat)} {ls : Nat} {lv : Option Slots} {ev : CbEv}
    (hev : EvOk I ev) (hl : LastOk I ls lv) : ∀ c ∈ callsFor handles ls lv ev, CallOk I c := by
  intro c hc
  cases ev with
  | watchErr k old new => cases List.mem_singleton.mp hc; trivial
  | newCfg old new supp =>
    simp only [callsFor, List.mem_append, List.mem_map] at hc
    rcases hc with hc | ⟨h, _, rfl⟩
    · split at hc
      · cases List.mem_singleton.mp hc; exact hev
      · cases hc
    · exact hev
  | reg h ser cfg =>
    cases cfg with
    | none => cases hc
    | some c0 =>
      simp only [callsFor] at hc
      split at hc
      · next hcu =>
        cases List.mem_singleton.mp hc
        rcases hl with hl | ⟨cfg, hlv, hmem⟩
        · simp only [Facts.catchUp, decide_eq_true_eq] at hcu
          omega
        · rw [hlv]; exact hmem
      · cases hc
  | unreg h c0 tok => cases hc

structure InvB (sl : Slots) (s : State) : Prop where
  evch : ∀ v, s.events = some v → v ∈ installsOf s.log
  monev : MonEvOk (installsOf s.log) s.view s.mon
  cb : CbOk (installsOf s.log) s.cb s.cbch
  last : LastOk (installsOf s.log) s.lastSerial s.lastVersion
  log : ∀ o ∈ s.log, ObsOkB sl (installsOf s.log) o

theorem InvB_init (P : Params) (sl : Slots) (w : List Bool) : InvB sl (initState P sl w) :=
  ⟨nofun, trivial, ⟨trivial, List.forall_mem_nil _⟩, .inl rfl, List.forall_mem_nil _⟩

theorem installs_mono {p : Obs → Prop} {s s' : State} (hg : Grows p s s') :
    ∀ v ∈ installsOf s.log, v ∈ installsOf s'.log := by
  obtain ⟨ext, e, _⟩ := hg
  intro v hv
  rw [e, installsOf, List.filterMap_append]
  exact List.mem_append_right _ hv

theorem InvB.of {sl : Slots} {s s' : State} (hi : InvB sl s) (hg : Grows (ObsOkB sl (installsOf s'.log)) s s')
    (hev : ∀ v, s'.events = some v → s.events = some v ∨ v ∈ installsOf s'.log)
    (hm : MonEvOk (installsOf s'.log) s'.view s'.mon) (hcb : CbOk (installsOf s'.log) s'.cb s'.cbch)
    (hl : LastOk (installsOf s'.log) s'.lastSerial s'.lastVersion) : InvB sl s' := by
  have mono := installs_mono hg
  obtain ⟨ext, e, he⟩ := hg
  refine ⟨fun v h => (hev v h).elim (fun h => mono v (hi.evch v h)) id, hm, hcb, hl, fun o ho => ?_⟩
  rw [e] at ho
  exact (List.mem_append.mp ho).elim (he o) fun ho => ObsOkB_mono mono (hi.log o ho)

theorem InvB.of_old {sl : Slots} {s s' : State} (hi : InvB sl s) (hg : Grows (ObsOkB sl (installsOf s.log)) s s')
    (hev : ∀ v, s'.events = some v → v ∈ installsOf s.log)
    (hm : MonEvOk (installsOf s.log) s'.view s'.mon) (hcb : CbOk (installsOf s.log) s'.cb s'.cbch)
    (hl : LastOk (installsOf s.log) s'.lastSerial s'.lastVersion) : InvB sl s' := by
  have mono := installs_mono hg
  obtain ⟨ext, e, he⟩ := hg
  refine hi.of ⟨ext, e, fun o ho => ObsOkB_mono mono (he o ho)⟩ (fun v h => .inr (mono v (hev v h))) ?_
    (CbOk_mono mono hcb) (LastOk_mono mono hl)
  generalize s'.mon = m at hm
  cases m <;> first | trivial | exact mono _ hm

structure CbSame (s s' : State) : Prop where
  events : s'.events = s.events
  cb : s'.cb = s.cb
  cbch : s'.cbch = s.cbch
  lastSerial : s'.lastSerial = s.lastSerial
  lastVersion : s'.lastVersion = s.lastVersion

theorem CbSame.of_shape {s s' : State} {m : MonPc} {mc : List (Nat × Nat)} {cl : List (Nat × CSt)} {ca : List Nat}
    {l : List Obs} (h : s' = { s with mon := m, monCtl := mc, clients := cl, cancelled := ca, log := l }) :
    CbSame s s' := h ▸ ⟨rfl, rfl, rfl, rfl, rfl⟩

theorem Frame.mon_plain {p : Obs → Bool} {s s' : State} (hf : Frame p s s') (hp : s.mon.plain = true) :
    s'.mon.plain = true :=
  hf.mon.elim (· ▸ hp) fun h => plain_of_wake h.2

theorem MonEvOk_plain {I : List Version} {v : Version} {pc : MonPc} (h : pc.plain = true) : MonEvOk I v pc := by
  cases pc <;> first | trivial | cases h

theorem InvB.monev_frame {p : Obs → Bool} {sl : Slots} {s s' : State} (hi : InvB sl s) (hf : Frame p s s') :
    MonEvOk (installsOf s.log) s'.view s'.mon := by
  rcases hf.mon with e | ⟨_, hw⟩
  · rw [e, hf.view]; exact hi.monev
  · exact MonEvOk_plain (plain_of_wake hw)

theorem InvB.quiet {sl : Slots} {s s' : State} (hi : InvB sl s) (hf : Frame quietObs s s') (hc : CbSame s s') :
    InvB sl s' :=
  hi.of_old (hf.grows fun _ ho => ObsOkB_of_not (observed_of_quiet ho)) (hc.events ▸ hi.evch) (hi.monev_frame hf)
    (hc.cb ▸ hc.cbch ▸ hi.cb) (hc.lastSerial ▸ hc.lastVersion ▸ hi.last)

theorem LastOk_cbPre {I : List Version} {s : State} {ev : CbEv} (hev : EvOk I ev)
    (hl : LastOk I s.lastSerial s.lastVersion) : LastOk I (cbPre s ev).lastSerial (cbPre s ev).lastVersion := by
  cases ev with
  | newCfg old new supp => cases supp <;> exact .inr ⟨new.cfg, rfl, hev⟩
  | _ => exact hl

theorem InvB.next {W : World} {P : Params} {sl : Slots} {s s' : State} {l : Label} (hi : InvB sl s)
    (hA : InvA W P sl s) (hcl : ClOk s.clients) (h : Step W s l s') : InvB sl s' := by
  have hv := hA.view_mem
  have nob : ∀ {o : Obs}, observed o = false → ObsOkB sl (installsOf s.log) o := ObsOkB_of_not
  cases h with
  | «begin» | ack => exact hi.quiet (frame_setClient ..) (.of_shape rfl)
  | cancel ctx => exact hi.quiet (frame_cancelCtx ..) (.of_shape (cancelCtx_shape ..))
  | client c ch h =>
    cases h with
    | view ctx _ =>
      exact hi.of_old (((Grows.of_eq rfl).add (t' := s.ret c _) (nob rfl) rfl).add (o := .seen c s.view) hv rfl) hi.evch hi.monev hi.cb hi.last
    | recv ctx v _ he =>
      exact hi.of_old (((Grows.of_eq rfl).add (t' := State.ret { s with events := none } c _) (nob rfl) rfl).add
        (o := .evRecv c v) (hi.evch v he) rfl) nofun hi.monev hi.cb hi.last
    | noEvent ctx _ _ => exact hi.quiet (frame_ret s c rfl) (.of_shape rfl)
    | report | reportErr | done => exact hi.quiet (frame_offerW ..) (.of_shape (offerW_shape ..))
    | register | unregister =>
      exact hi.of_old ((frame_offerCb ..).grows fun o ho => nob (observed_of_quiet ho))
        (by rw [offerCb_shape]; exact hi.evch) (hi.monev_frame (frame_offerCb ..))
        (CbOk_offerCb hi.cb trivial) (by rw [offerCb_shape]; exact hi.last)
    | enableNow ctx _ _ => exact hi.of_old ((Grows.of_eq rfl).add (o := .ret c (.enableOk s.view)) hv rfl) hi.evch hi.monev hi.cb hi.last
    | enable ctx _ _ =>
      exact hi.quiet ((frame_logAdd s rfl).trans (frame_offerCtl ..)) (.of_shape (offerCtl_shape ..))
  | cb h =>
    have hcb := hi.cb
    have hev : ∀ v, s'.events = some v → v ∈ installsOf s.log := h.events_eq ▸ hi.evch
    have hmon := hi.monev_frame h.frame
    cases h with
    | deq ev rest hc hq =>
      rw [hq] at hcb
      refine hi.of_old (Grows.trans (t := cbTake { s with cbch := rest } ev) (.of_eq rfl)
        ((frame_admitCbSender _).grows fun o ho => nob (observed_of_quiet ho))) hev hmon ⟨?_, ?_⟩
        (by rw [admitCbSender_shape]; exact hi.last)
      · rw [admitCbSender_shape]; exact hcb.2 ev List.mem_cons_self
      · have hr : ∀ e ∈ rest, EvOk (installsOf s.log) e := fun e he => hcb.2 e (List.mem_cons_of_mem _ he)
        unfold admitCbSender
        split
        · next c e ctx hf =>
          have he : EvOk (installsOf s.log) e :=
            EvOk_of_notNew (by simpa [CSt.ok] using hcl _ (List.mem_of_find?_eq_some hf))
          have : ∀ x ∈ rest ++ [e], EvOk (installsOf s.log) x :=
            List.forall_mem_append.mpr ⟨hr, List.forall_mem_singleton.mpr he⟩
          dsimp only
          split
          · rw [waitOr_shape]; exact this
          · exact this
          · exact this
        · exact hr
    | idle hc hq =>
      exact hi.of_old (.of_eq rfl) hev hmon ⟨by dsimp only; split <;> trivial, hcb.2⟩ hi.last
    | skip ev hc hcs =>
      rw [hc] at hcb
      exact hi.of_old ((((frame_cbPre s ev).trans (frame_finishEv _ ev)).grows
          fun o ho => nob (observed_of_quiet ho)).trans (.of_eq rfl)) hev hmon
        ⟨trivial, by rw [finishEv_shape, cbPre_shape]; exact hcb.2⟩
        (by rw [finishEv_shape]; exact LastOk_cbPre hcb.1 hi.last)
    | call ev c cs hc hcs =>
      rw [hc] at hcb
      have hl := LastOk_cbPre (s := s) hcb.1 hi.last
      have hcs' : ∀ x ∈ c :: cs, CallOk (installsOf s.log) x := hcs ▸ callsFor_ok hcb.1 hl
      exact hi.of_old (Grows.add (o := .enter c) ((frame_cbPre s ev).grows fun o ho => nob (observed_of_quiet ho))
          (hcs' c List.mem_cons_self) rfl) hev hmon ⟨hcs', by rw [cbPre_shape]; exact hcb.2⟩ hl
    | next c0 c cs ev hc =>
      rw [hc] at hcb
      exact hi.of_old ((Grows.of_eq rfl).add (o := .enter c) (hcb.1 c (List.mem_cons_of_mem _ List.mem_cons_self)) rfl)
        hev hmon ⟨fun x hx => hcb.1 x (List.mem_cons_of_mem _ hx), hcb.2⟩ hi.last
    | last c ev hc =>
      exact hi.of_old (((frame_finishEv s ev).grows fun o ho => nob (observed_of_quiet ho)).trans (.of_eq rfl))
        hev hmon ⟨trivial, by rw [finishEv_shape]; exact hcb.2⟩ (by rw [finishEv_shape]; exact hi.last)
    | exit hc => exact hi.of_old (.of_eq rfl) hev hmon ⟨trivial, hcb.2⟩ hi.last
  | mon ch h =>
    have hg := h.log_ext
    have mono := installs_mono hg
    obtain ⟨hls, hlv, -, hside⟩ := h.cb_side
    refine hi.of ?_ ?_ ?_ ?_ (hls ▸ hlv ▸ LastOk_mono mono hi.last)
    · obtain ⟨ext, e, he⟩ := hg
      refine ⟨ext, e, fun o ho => ?_⟩
      cases hob : observed o
      · exact ObsOkB_of_not hob
      · obtain ⟨c, rfl⟩ := he o ho hob
        exact hv.imp id (mono _)
    · intro v hv'
      rcases h.events_eq with e | ⟨⟨old, r, hm⟩, e⟩
      · exact .inl (e ▸ hv')
      · rw [e] at hv'
        cases he : s.events with
        | some u => exact .inl (by rw [he] at hv'; exact hv')
        | none =>
          have := hi.monev
          rw [hm] at this
          rw [he] at hv'
          cases hv'
          exact .inr (mono _ this)
    · have hm := hi.monev
      cases h with
      | gotValue src v reply _ =>
        dsimp only
        split
        · trivial
        · split <;> trivial
      | verifyUpd sl' reply _ => show MonEvOk _ _ (if _ then _ else _); split <;> trivial
      | submitErr k new reply _ => cases reply <;> trivial
      | store sl' reply _ => exact List.mem_cons_self
      | events old reply hm' => rw [hm'] at hm; cases reply <;> exact mono _ hm
      | replyOk old c hm' => rw [hm'] at hm; rw [replyTo_shape]; exact mono _ hm
      | gotSrcErr e _ => split <;> trivial
      | gotDone src _ => dsimp only; split <;> trivial
      | gotEnable c tok _ => dsimp only; split <;> trivial
      | take i hm' _ => exact MonEvOk_plain ((frame_monTake s i (by rw [hm']; rfl)).mon_plain (by rw [hm']; rfl))
      | _ => trivial
    · have hcb := CbOk_mono mono hi.cb
      rcases hside with ⟨e1, e2, -⟩ | ⟨ev, hev, e1, e2, -⟩ | ⟨-, e1, e2⟩
      · rw [e1, e2]; exact hcb
      · rw [e1, e2]
        refine CbOk_trySubmit hcb ?_
        have hm := hi.monev
        unfold monSubmits at hev
        split at hev <;> cases hev
        · trivial
        · next old hm' => rw [hm'] at hm; exact mono _ hm
        · trivial
      · rw [e1, e2]
        refine ⟨?_, hcb.2⟩
        split
        · trivial
        · exact hcb.1

structure Inv (W : World) (P : Params) (sl : Slots) (s : State) : Prop where
  a : InvA W P sl s
  cl : ClOk s.clients
  b : InvB sl s

theorem Inv_reachable {W : World} {P : Params} {sl : Slots} {w : List Bool} {s : State}
    (hr : Reachable W P sl w s) : Inv W P sl s :=
  reachable_induction ⟨InvA_init W P sl w, List.forall_mem_nil _, InvB_init P sl w⟩
    (fun _ _ _ i h => ⟨i.a.next h, i.cl.next (.of_step h), i.b.next i.a i.cl (.of_step h)⟩) hr

theorem observed_ok {W : World} {P : Params} {sl : Slots} {w : List Bool} {s : State}
    (hr : Reachable W P sl w s) {o : Obs} (ho : o ∈ s.log) : ObsOkB sl (installsOf s.log) o :=
  (Inv_reachable hr).b.log o ho

def SeenLe (n : Nat) : Obs → Prop
  | .seen _ v => v.serial ≤ n
  | _ => True

def RecvLe (n : Nat) : Obs → Prop
  | .evRecv _ v => v.serial ≤ n
  | _ => True

def RecvLt (n : Nat) : Obs → Prop
  | .evRecv _ v => v.serial < n
  | _ => True

def OrdOk (newer older : Obs) : Prop :=
  match older, newer with
  | .seen _ v1, .seen _ v2 => v1.serial ≤ v2.serial
  | .evRecv _ v1, .evRecv _ v2 => v1.serial < v2.serial
  | _, _ => True

def LogAll (p : Obs → Prop) : List Obs → Prop
  | [] => True
  | o :: l => p o ∧ LogAll p l

def LogSorted : List Obs → Prop
  | [] => True
  | o :: l => LogAll (OrdOk o) l ∧ LogSorted l

def MonPc.isEvents : MonPc → Bool
  | .events _ _ => true
  | _ => false

structure InvC (s : State) : Prop where
  seenLe : LogAll (SeenLe s.view.serial) s.rlog
  recvLe : LogAll (RecvLe s.view.serial) s.rlog
  recvLtEv : ∀ u, s.events = some u → LogAll (RecvLt u.serial) s.rlog
  evLe : ∀ u, s.events = some u → u.serial ≤ s.view.serial
  atEvents : s.mon.isEvents = true →
    LogAll (RecvLt s.view.serial) s.rlog ∧ ∀ u, s.events = some u → u.serial < s.view.serial
  sorted : LogSorted s.rlog

theorem LogAll_iff {p : Obs → Prop} {l : List Obs} : LogAll p l ↔ ∀ o ∈ l, p o := by
  induction l with
  | nil => exact ⟨fun _ => List.forall_mem_nil _, fun _ => trivial⟩
  | cons o l ih => exact ⟨fun h => List.forall_mem_cons.mpr ⟨h.1, ih.mp h.2⟩,
      fun h => ⟨(List.forall_mem_cons.mp h).1, ih.mpr (List.forall_mem_cons.mp h).2⟩⟩

theorem LogAll_mono {p q : Obs → Prop} (h : ∀ o, p o → q o) {l : List Obs} (hl : LogAll p l) : LogAll q l :=
  LogAll_iff.mpr fun o ho => h o (LogAll_iff.mp hl o ho)

def silent : Obs → Bool
  | .seen _ _ | .evRecv _ _ => false
  | _ => true

theorem LogAll_ext {p : Obs → Prop} (hp : ∀ o, silent o = true → p o) {ext l : List Obs}
    (he : ∀ o ∈ ext, silent o = true) (hl : LogAll p l) : LogAll p (ext.filter rel ++ l) :=
  LogAll_iff.mpr fun o ho => (List.mem_append.mp ho).elim (fun h => hp o (he o (List.mem_filter.mp h).1))
    (LogAll_iff.mp hl o)

theorem OrdOk_silent {o x : Obs} (h : silent o = true) : OrdOk o x := by
  unfold OrdOk
  split
  · cases h
  · cases h
  · trivial

theorem LogSorted_ext {ext l : List Obs} (he : ∀ o ∈ ext, silent o = true) (hl : LogSorted l) :
    LogSorted (ext.filter rel ++ l) := by
  induction ext with
  | nil => exact hl
  | cons o ext ih =>
    have ih := ih (List.forall_mem_cons.mp he).2
    rw [List.filter_cons]
    split
    · exact ⟨LogAll_iff.mpr fun x _ => OrdOk_silent (List.forall_mem_cons.mp he).1, ih⟩
    · exact ih

theorem SeenLe_silent {n : Nat} {o : Obs} (h : silent o = true) : SeenLe n o := by
  cases o <;> first | trivial | cases h

theorem RecvLe_silent {n : Nat} {o : Obs} (h : silent o = true) : RecvLe n o := by
  cases o <;> first | trivial | cases h

theorem RecvLt_silent {n : Nat} {o : Obs} (h : silent o = true) : RecvLt n o := by
  cases o <;> first | trivial | cases h

theorem SeenLe_mono {n m : Nat} (h : n ≤ m) {o : Obs} (ho : SeenLe n o) : SeenLe m o := by
  cases o <;> first | trivial | exact Nat.le_trans ho h

theorem RecvLe_mono {n m : Nat} (h : n ≤ m) {o : Obs} (ho : RecvLe n o) : RecvLe m o := by
  cases o <;> first | trivial | exact Nat.le_trans ho h

theorem RecvLt_of_Le {n m : Nat} (h : n < m) {o : Obs} (ho : RecvLe n o) : RecvLt m o := by
  cases o <;> first | trivial | exact Nat.lt_of_le_of_lt ho h

theorem isEvents_elim {m : MonPc} (h : m.isEvents = false) {p : Prop} : m.isEvents = true → p :=
  fun h' => by rw [h] at h'; cases h'

theorem InvC.quiet {s s' : State} (hi : InvC s) (hv : s'.view = s.view) (he : s'.events = s.events)
    (hm : s'.mon.isEvents = true → s.mon.isEvents = true) (hg : Grows (silent · = true) s s') : InvC s' := by
  obtain ⟨ext, e, hs⟩ := hg
  have er : s'.rlog = ext.filter rel ++ s.rlog := by rw [State.rlog, e, List.filter_append]; rfl
  refine ⟨?_, ?_, ?_, ?_, ?_, ?_⟩
  · rw [er, hv]; exact LogAll_ext (fun _ => SeenLe_silent) hs hi.seenLe
  · rw [er, hv]; exact LogAll_ext (fun _ => RecvLe_silent) hs hi.recvLe
  · rw [er, he]; exact fun u hu => LogAll_ext (fun _ => RecvLt_silent) hs (hi.recvLtEv u hu)
  · rw [he, hv]; exact hi.evLe
  · rw [er, he, hv]
    exact fun h => ⟨LogAll_ext (fun _ => RecvLt_silent) hs (hi.atEvents (hm h)).1, (hi.atEvents (hm h)).2⟩
  · rw [er]; exact LogSorted_ext hs hi.sorted

theorem silent_of_quiet (o : Obs) (h : quietObs o = true) : silent o = true := by
  cases o <;> first | rfl | cases h

theorem silent_of_cb (o : Obs) (h : cbObs o = true) : silent o = true := by
  cases o <;> first | rfl | cases h

theorem InvC.frame {p : Obs → Bool} {s s' : State} (hi : InvC s) (hf : Frame p s s')
    (hp : ∀ o, p o = true → silent o = true) (he : s'.events = s.events) : InvC s' := by
  refine hi.quiet hf.view he (fun h => ?_) (hf.grows hp)
  rcases hf.mon with e | ⟨_, hw⟩
  · exact e ▸ h
  · generalize s'.mon = m at h hw
    cases m with
    | events old r => rcases hw with hw | hw <;> cases hw
    | _ => cases h

theorem OrdOk_seen {c : Nat} {v : Version} {o : Obs} (ho : SeenLe v.serial o) : OrdOk (.seen c v) o := by
  cases o <;> first | trivial | exact ho

theorem OrdOk_evRecv {c : Nat} {v : Version} {o : Obs} (ho : RecvLt v.serial o) : OrdOk (.evRecv c v) o := by
  cases o <;> first | trivial | exact ho

theorem InvC.next {W : World} {s s' : State} {l : Label} (hi : InvC s) (h : Step W s l s') : InvC s' := by
  cases h with
  | «begin» | ack => exact hi.quiet rfl rfl id (.of_eq rfl)
  | cancel ctx => exact hi.frame (frame_cancelCtx (p := silent) ..) (fun _ => id) (by rw [cancelCtx_shape])
  | cb h => exact hi.frame h.frame silent_of_cb h.events_eq
  | client c ch h =>
    cases h with
    | view ctx _ =>
      obtain ⟨h1, h2, h3, h4, h5, h6⟩ := hi
      exact ⟨⟨Nat.le_refl _, h1⟩, ⟨trivial, h2⟩, fun u hu => ⟨trivial, h3 u hu⟩, h4,
        fun hm => ⟨⟨trivial, (h5 hm).1⟩, (h5 hm).2⟩, LogAll_mono (fun _ => OrdOk_seen) h1, h6⟩
    | recv ctx v _ he =>
      obtain ⟨h1, h2, h3, h4, h5, h6⟩ := hi
      exact ⟨⟨trivial, h1⟩, ⟨h4 v he, h2⟩, nofun, nofun, fun hm => ⟨⟨(h5 hm).2 v he, (h5 hm).1⟩, nofun⟩,
        LogAll_mono (fun _ => OrdOk_evRecv) (h3 v he), h6⟩
    | noEvent | enableNow => exact hi.frame (frame_ret (p := silent) s c rfl) (fun _ => id) rfl
    | report | reportErr | done => exact hi.frame (frame_offerW ..) silent_of_quiet (by rw [offerW_shape])
    | register | unregister => exact hi.frame (frame_offerCb ..) silent_of_quiet (by rw [offerCb_shape])
    | enable ctx _ _ =>
      exact hi.frame ((frame_logAdd s rfl).trans (frame_offerCtl ..)) silent_of_quiet (by rw [offerCtl_shape])
  | mon ch h =>
    have hg : Grows (silent · = true) s s' := by
      obtain ⟨ext, e, he⟩ := h.log_ext
      refine ⟨ext, e, fun o ho => ?_⟩
      have := he o ho
      cases o <;> first | rfl | (obtain ⟨_, e⟩ := this rfl; cases e)
    cases h with
    | sleep | verifyEnable | exit => exact hi.quiet rfl rfl (isEvents_elim rfl) hg
    | take i hm _ => exact hi.frame (frame_monTake s i (by rw [hm]; rfl)) silent_of_quiet (by rw [monTake_shape])
    | gotValue src v reply _ =>
      refine hi.quiet rfl rfl ?_ hg
      dsimp only
      split
      · exact isEvents_elim rfl
      · split <;> exact isEvents_elim rfl
    | verifyUpd sl reply _ =>
      refine hi.quiet rfl rfl ?_ hg
      show MonPc.isEvents (if _ then _ else _) = true → _
      split <;> exact isEvents_elim rfl
    | submitErr k new reply _ =>
      rw [trySubmit_shape] at hg ⊢
      exact hi.quiet rfl rfl (by cases reply <;> exact isEvents_elim rfl) hg
    | replyErr | replyOk => rw [replyTo_shape] at hg ⊢; exact hi.quiet rfl rfl (isEvents_elim rfl) hg
    | submitNew | submitSrcErr => rw [trySubmit_shape] at hg ⊢; exact hi.quiet rfl rfl (isEvents_elim rfl) hg
    | store sl reply _ =>
      obtain ⟨h1, h2, h3, h4, h5, h6⟩ := hi
      exact ⟨⟨trivial, LogAll_mono (fun _ => SeenLe_mono (Nat.le_succ _)) h1⟩,
        ⟨trivial, LogAll_mono (fun _ => RecvLe_mono (Nat.le_succ _)) h2⟩, fun u hu => ⟨trivial, h3 u hu⟩,
        fun u hu => Nat.le_succ_of_le (h4 u hu),
        fun _ => ⟨⟨trivial, LogAll_mono (fun _ => RecvLt_of_Le (Nat.lt_succ_self _)) h2⟩,
          fun u hu => Nat.lt_succ_of_le (h4 u hu)⟩,
        LogAll_iff.mpr fun _ _ => OrdOk_silent rfl, h6⟩
    | events old reply hm =>
      obtain ⟨h1, h2, h3, h4, h5, h6⟩ := hi
      have h5 := h5 (by rw [hm]; rfl)
      refine ⟨h1, h2, fun u hu => ?_, fun u hu => ?_, by cases reply <;> exact isEvents_elim rfl, h6⟩
      · cases he : s.events with
        | none => rw [show u = s.view by simpa [he] using hu.symm]; exact h5.1
        | some e => exact h3 u (by simpa [he] using hu)
      · cases he : s.events with
        | none => rw [show u = s.view by simpa [he] using hu.symm]; exact Nat.le_refl _
        | some e => exact h4 u (by simpa [he] using hu)
    | gotSrcErr e _ =>
      split
      · exact hi.quiet rfl rfl (isEvents_elim rfl) (.of_eq rfl)
      · exact hi.quiet rfl rfl (isEvents_elim rfl) ((Grows.of_eq rfl).add rfl rfl)
    | gotDone | gotEnable =>
      refine hi.quiet rfl rfl ?_ hg
      dsimp only
      split <;> exact isEvents_elim rfl
    | enableReply c tok ok noop _ =>
      rw [respondTo_shape, enableSwitch_shape] at hg ⊢
      exact hi.quiet rfl rfl (isEvents_elim rfl) hg

theorem InvC_reachable {W : World} {P : Params} {sl : Slots} {w : List Bool} {s : State}
    (hr : Reachable W P sl w s) : InvC s :=
  reachable_induction ⟨trivial, trivial, nofun, nofun, nofun, trivial⟩ (fun _ _ _ i h => i.next (.of_step h)) hr

theorem LogSorted_append {X Y : List Obs} (h : LogSorted (X ++ Y)) : LogSorted Y := by
  induction X with
  | nil => exact h
  | cons x X ih => exact ih h.2

theorem rlog_of_before {s : State} {a b : Obs} (ha : rel a = true) (hb : rel b = true)
    (h : Before s.history a b) : ∃ X Y, s.rlog = X ++ b :: Y ∧ a ∈ Y := by
  obtain ⟨l1, l2, l3, e⟩ := h
  have e2 : s.log = l3.reverse ++ b :: (l2.reverse ++ a :: l1.reverse) := by
    have := congrArg List.reverse e
    simpa [State.history] using this
  refine ⟨l3.reverse.filter rel, (l2.reverse ++ a :: l1.reverse).filter rel, ?_, ?_⟩
  · simp [State.rlog, e2, List.filter_cons, hb]
  · simp [List.mem_filter, ha]

theorem ordOk_of_before {s : State} (hs : LogSorted s.rlog) {a b : Obs} (ha : rel a = true) (hb : rel b = true)
    (h : Before s.history a b) : OrdOk b a := by
  obtain ⟨X, Y, e, hmem⟩ := rlog_of_before ha hb h
  rw [e] at hs
  exact LogAll_iff.1 (LogSorted_append hs).1 a hmem

end Dials.Runtime
