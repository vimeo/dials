/-
Sets of addresses closed under the references at exported positions: a value lies in the set (`inV`), a heap
is closed for the set (`Closed`), and whatever a value in the set reaches lies in the set (`reach_in`).  The
deep copier (the cells allocated since a mark) and the overlay (the cells the base and the source reach) both
work inside such a set.
-/
import DialsModel.Model.HeapSpec

namespace Dials.Heap

mutual
def inV (P : Nat → Prop) : HV → Prop
  | .sc _ => True
  | .nil => True
  | .ptr a => P a
  | .mp a => P a
  | .sl a _ => P a
  | .st fs => inFs P fs
  | .ar es => inFs P es
  | .ifc d => inV P d
def inFs (P : Nat → Prop) : HFs → Prop
  | .nil => True
  | .cons ex v rest => (ex = true → inV P v) ∧ inFs P rest
end

def inCell (P : Nat → Prop) : Cell → Prop
  | .val v => inV P v
  | .mapc es => ∀ p ∈ es, inV P p.1 ∧ inV P p.2
  | .arr es => ∀ v ∈ es, inV P v

def Closed (P : Nat → Prop) (h : Heap) : Prop := ∀ a c, P a → h[a]? = some c → inCell P c

theorem getElem?_append_cases {α} {l : List α} {c c' : α} {a : Nat} (hg : (l ++ [c])[a]? = some c') :
    l[a]? = some c' ∨ c' = c := by
  rcases Nat.lt_or_ge a l.length with hlt | hge
  · exact .inl (List.getElem?_append_left hlt ▸ hg)
  · rw [List.getElem?_append_right hge] at hg
    exact .inr (List.mem_singleton.mp (List.mem_of_getElem? hg))

theorem getElem?_set_cases {α} {l : List α} {c c' : α} {a b : Nat} (hg : (l.set a c)[b]? = some c') :
    l[b]? = some c' ∨ c' = c := by
  by_cases hab : a = b
  · subst hab
    rw [List.getElem?_set_self (by simpa using (List.getElem?_eq_some_iff.mp hg).1)] at hg
    exact .inr (Option.some.inj hg).symm
  · exact .inl (List.getElem?_set_ne hab ▸ hg)

theorem Closed.append {P : Nat → Prop} {h : Heap} (hc : Closed P h) {c : Cell} (hin : inCell P c) :
    Closed P (h ++ [c]) := fun a c' ha hg =>
  (getElem?_append_cases hg).elim (hc a c' ha) fun e => e ▸ hin

theorem Closed.set {P : Nat → Prop} {h : Heap} (hc : Closed P h) (a : Nat) {c : Cell} (hin : inCell P c) :
    Closed P (h.set a c) := fun b c' hb hg =>
  (getElem?_set_cases hg).elim (hc b c' hb) fun e => e ▸ hin

theorem Closed.addEntry {P : Nat → Prop} {h : Heap} (hc : Closed P h) {a : Nat} (ha : P a) {k v : HV}
    (hk : inV P k) (hv : inV P v) : Closed P (addEntry h a k v) := by
  unfold Dials.Heap.addEntry
  split
  · rename_i es he
    refine hc.set a fun p hp => ?_
    rcases List.mem_append.mp hp with h1 | h1
    · exact hc a (.mapc es) ha he p h1
    · cases List.mem_singleton.mp h1; exact ⟨hk, hv⟩
  · exact hc

theorem Closed.setElem {P : Nat → Prop} {h : Heap} (hc : Closed P h) {a : Nat} (ha : P a) (i : Nat) {v : HV}
    (hv : inV P v) : Closed P (setElem h a i v) := by
  unfold Dials.Heap.setElem
  split
  · rename_i es he
    refine hc.set a fun w hw => ?_
    rcases List.mem_or_eq_of_mem_set hw with h1 | h1
    · exact hc a (.arr es) ha he w h1
    · exact h1 ▸ hv
  · exact hc

theorem reach_in {P : Nat → Prop} {hp : Heap} (hc : Closed P hp) {v : HV} {a : Nat} (hr : ReachV hp v a) :
    inV P v → P a := by
  refine ReachV.rec (h := hp) (motive_1 := fun v a _ => inV P v → P a)
    (motive_2 := fun fs a _ => inFs P fs → P a) ?_ ?_ ?_ ?_ ?_ ?_ ?_ ?_ ?_ ?_ ?_ ?_ hr
  · intro a h; exact h
  · intro a v b hg _ ih h; exact ih (hc a _ h hg)
  · intro a h; exact h
  · intro a es k v b hg hmem _ ih h; exact ih (hc a _ h hg (k, v) hmem).1
  · intro a es k v b hg hmem _ ih h; exact ih (hc a _ h hg (k, v) hmem).2
  · intro a len h; exact h
  · intro a len es v b hg hmem _ ih h; exact ih (hc a _ h hg v hmem)
  · intro fs b _ ih h; exact ih h
  · intro fs b _ ih h; exact ih h
  · intro d b _ ih h; exact ih h
  · intro v rest b _ ih h; exact ih (h.1 rfl)
  · intro ex v rest b _ ih h; exact ih h.2

mutual
theorem inV_mono {P Q : Nat → Prop} (hpq : ∀ a, P a → Q a) : ∀ v, inV P v → inV Q v
  | .sc _, _ => trivial
  | .nil, _ => trivial
  | .ptr a, h => hpq a h
  | .mp a, h => hpq a h
  | .sl a _, h => hpq a h
  | .st fs, h => by simp only [inV] at h ⊢; exact inFs_mono hpq fs h
  | .ar fs, h => by simp only [inV] at h ⊢; exact inFs_mono hpq fs h
  | .ifc d, h => by simp only [inV] at h ⊢; exact inV_mono hpq d h
theorem inFs_mono {P Q : Nat → Prop} (hpq : ∀ a, P a → Q a) : ∀ fs, inFs P fs → inFs Q fs
  | .nil, _ => trivial
  | .cons ex v r, h => by
    simp only [inFs] at h ⊢
    exact ⟨fun he => inV_mono hpq v (h.1 he), inFs_mono hpq r h.2⟩
end

theorem inCell_mono {P Q : Nat → Prop} (hpq : ∀ a, P a → Q a) (c : Cell) (h : inCell P c) : inCell Q c := by
  cases c with
  | val v => exact inV_mono hpq v h
  | mapc es => exact fun p hp => ⟨inV_mono hpq _ (h p hp).1, inV_mono hpq _ (h p hp).2⟩
  | arr es => exact fun p hp => inV_mono hpq _ (h p hp)

mutual
theorem refs_reach (h : Heap) (Q : Nat → Prop) : ∀ v, (∀ x, ReachV h v x → Q x) → inV Q v
  | .sc _, _ => trivial
  | .nil, _ => trivial
  | .ptr a, hq => hq a (.ptrHere a)
  | .mp a, hq => hq a (.mpHere a)
  | .sl a len, hq => hq a (.slHere a len)
  | .st fs, hq => by simp only [inV]; exact refsFs_reach h Q fs fun x hx => hq x (.st fs x hx)
  | .ar fs, hq => by simp only [inV]; exact refsFs_reach h Q fs fun x hx => hq x (.ar fs x hx)
  | .ifc d, hq => by simp only [inV]; exact refs_reach h Q d fun x hx => hq x (.ifc d x hx)
theorem refsFs_reach (h : Heap) (Q : Nat → Prop) : ∀ fs, (∀ x, ReachFs h fs x → Q x) → inFs Q fs
  | .nil, _ => trivial
  | .cons ex v r, hq => by
    simp only [inFs]
    refine ⟨fun he => ?_, refsFs_reach h Q r fun x hx => hq x (.there ex v r x hx)⟩
    subst he
    exact refs_reach h Q v fun x hx => hq x (.here v r x hx)
end

end Dials.Heap
