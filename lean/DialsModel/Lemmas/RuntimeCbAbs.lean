/-
The callback view of the runtime model, used by the callback properties (C06).

`core s` collects what the callback invariants read.  Two choices keep most steps invisible in it:
`queue` is the dequeued event followed by the channel, so a dequeue does not change it; `ents` is the calls
of the current event still to be entered (newest first) followed by the calls entered so far, so it changes
only when an event is taken up, not with every call.  `step_abs` shows that every step of the model is, in
this view, one or two of eight elementary effects (`Eff`); a step that no callback invariant can notice is
`Boring` and leaves the view unchanged.
-/
import DialsModel.Lemmas.RuntimeFrame

namespace Dials.Runtime

theorem run_split_induct {W : World} {init : State} (ls : List Label)
    (Inv : List Label → List Label → State → Prop)
    (h0 : Inv [] ls init)
    (hstep : ∀ past l fut s s', ls = past ++ l :: fut → run W init past = some s →
      Inv past (l :: fut) s → step W s l = some s' → Inv (past ++ [l]) fut s')
    {s : State} (hrun : run W init ls = some s) : Inv ls [] s := by
  induction ls generalizing init Inv with
  | nil =>
    simp only [run, Option.some.injEq] at hrun
    exact hrun ▸ h0
  | cons l ls ih =>
    simp only [run] at hrun
    cases hst : step W init l with
    | none => simp [hst] at hrun
    | some s1 =>
      rw [hst, Option.bind_some] at hrun
      refine ih (Inv := fun past fut s => Inv (l :: past) fut s) (hstep [] l ls init s1 rfl rfl h0 hst) ?_ hrun
      intro past l' fut s2 s3 hls hp hi hs
      exact hstep (l :: past) l' fut s2 s3 (by rw [hls]; rfl) (by simp only [run, hst, Option.bind_some, hp]) hi hs

def KeysNodup (cs : List (Nat × CSt)) : Prop := (cs.map (·.1)).Nodup

/-- the callback-channel event a client (with key `c`) is holding and may still send -/
def evOf (c : Nat) : CSt → Option CbEv
  | .ready (.register h ser cfg) _ => some (.reg h ser cfg)
  | .ready (.unregister h) ctx => some (.unreg h c ctx)
  | .sendCb ev _ => some ev
  | _ => none

def heldEv (p : Nat × CSt) : Option CbEv := evOf p.1 p.2

def held (cs : List (Nat × CSt)) : List CbEv := cs.filterMap heldEv

def wt (f : CbEv → Bool) : Option CbEv → Nat
  | some e => if f e then 1 else 0
  | none => 0

@[simp] theorem wt_none (f : CbEv → Bool) : wt f none = 0 := rfl
@[simp] theorem wt_some (f : CbEv → Bool) (e : CbEv) : wt f (some e) = if f e then 1 else 0 := rfl

theorem countP_held_cons (f : CbEv → Bool) (p : Nat × CSt) (cs : List (Nat × CSt)) :
    (held (p :: cs)).countP f = wt f (heldEv p) + (held cs).countP f := by
  unfold held
  rw [List.filterMap_cons]
  cases h : heldEv p with
  | none => simp
  | some e => rw [List.countP_cons, wt_some, Nat.add_comm]

@[simp] theorem held_nil : held [] = [] := rfl

theorem mem_held {cs : List (Nat × CSt)} {ev : CbEv} : ev ∈ held cs ↔ ∃ p ∈ cs, evOf p.1 p.2 = some ev :=
  List.mem_filterMap

theorem KeysNodup.setC {cs : List (Nat × CSt)} (h : KeysNodup cs) (c : Nat) (st : CSt) :
    KeysNodup (setC cs c st) := by
  induction cs with
  | nil => exact List.pairwise_singleton ..
  | cons p cs ih =>
    obtain ⟨d, x⟩ := p
    obtain ⟨hd, hcs⟩ := List.nodup_cons.1 h
    rw [Runtime.setC]
    split
    · exact h
    · next hne =>
      refine List.nodup_cons.2 ⟨fun hm => ?_, ih hcs⟩
      obtain ⟨q, hq, (e : q.1 = d)⟩ := List.mem_map.1 hm
      rcases mem_setC hq with hq | rfl
      · exact hd (List.mem_map.2 ⟨q, hq, e⟩)
      · exact hne (beq_iff_eq.2 e.symm)

theorem nodup_snoc {α : Type} {l : List α} {a : α} (h : l.Nodup) (ha : a ∉ l) : (l ++ [a]).Nodup := by
  rw [List.nodup_append]
  refine ⟨h, by simp, ?_⟩
  intro x hx y hy
  rw [List.mem_singleton.1 hy]
  exact fun e => ha (e ▸ hx)

theorem KeysNodup.block {cs : List (Nat × CSt)} (h : KeysNodup cs) (c : Nat) (st : CSt) :
    KeysNodup (cs.filter (fun p => p.1 != c) ++ [(c, st)]) := by
  unfold KeysNodup at *
  have : (cs.filter (fun p => p.1 != c)).map (·.1) = (cs.map (·.1)).filter (fun k => k != c) := by
    rw [List.filter_map]; rfl
  rw [List.map_append, this]
  exact nodup_snoc (h.filter _) (by simp)

theorem KeysNodup.map {cs : List (Nat × CSt)} (h : KeysNodup cs) (g : Nat × CSt → Nat × CSt)
    (hg : ∀ p, (g p).1 = p.1) : KeysNodup (cs.map g) := by
  unfold KeysNodup at *
  have : (cs.map g).map (·.1) = cs.map (·.1) := by
    rw [List.map_map]; apply List.map_congr_left; intro p _; exact hg p
  rw [this]; exact h

theorem getC_of_mem {cs : List (Nat × CSt)} (hk : KeysNodup cs) {c : Nat} {st : CSt}
    (h : (c, st) ∈ cs) : getC cs c = st := by
  induction cs with
  | nil => cases h
  | cons p cs ih =>
    obtain ⟨d, x⟩ := p
    obtain ⟨hd, hcs⟩ := List.nodup_cons.1 hk
    rw [getC_cons]
    rcases List.mem_cons.1 h with h | h
    · cases h
      rw [beq_self_eq_true, if_pos rfl]
    · have hne : (d == c) = false := beq_false_of_ne fun e => hd (e ▸ List.mem_map.2 ⟨_, h, rfl⟩)
      rw [hne]
      exact ih hcs h

theorem find_getC {cs : List (Nat × CSt)} (hk : KeysNodup cs) {q : Nat × CSt → Bool} {c : Nat} {st : CSt}
    (h : cs.find? q = some (c, st)) : getC cs c = st :=
  getC_of_mem hk (List.mem_of_find?_eq_some h)

theorem getC_held {cs : List (Nat × CSt)} {c : Nat} {ev : CbEv} (h : evOf c (getC cs c) = some ev) : ev ∈ held cs :=
  mem_held.2 ⟨_, getC_mem rfl (fun e => by rw [e] at h; cases h), h⟩

theorem countP_held_setC (f : CbEv → Bool) (cs : List (Nat × CSt)) (c : Nat) (st : CSt) :
    (held (setC cs c st)).countP f + wt f (evOf c (getC cs c)) =
      (held cs).countP f + wt f (evOf c st) := by
  induction cs with
  | nil =>
    rw [setC, countP_held_cons]
    exact Nat.add_comm _ _
  | cons p cs ih =>
    obtain ⟨d, x⟩ := p
    rw [setC, getC_cons]
    cases hd : d == c
    · simp only [Bool.false_eq_true, if_false, countP_held_cons]
      omega
    · cases beq_iff_eq.1 hd
      simp only [if_true, countP_held_cons, heldEv]
      omega

theorem countP_held_filter_le (f : CbEv → Bool) (cs : List (Nat × CSt)) (c : Nat) :
    (held (cs.filter (fun p => p.1 != c))).countP f + wt f (evOf c (getC cs c)) ≤ (held cs).countP f := by
  induction cs with
  | nil => exact Nat.le_refl _
  | cons p cs ih =>
    obtain ⟨d, x⟩ := p
    rw [getC_cons, List.filter_cons]
    cases hd : d == c
    · have hb : (d != c) = true := by rw [bne, hd]; rfl
      simp only [hb, Bool.false_eq_true, if_true, if_false, countP_held_cons]
      omega
    · have hb : (d != c) = false := by rw [bne, hd]; rfl
      cases beq_iff_eq.1 hd
      simp only [hb, Bool.false_eq_true, if_false, if_true, countP_held_cons, heldEv]
      omega

/-- no held event is created; stated by counting, which is indifferent to the reordering that `blockClient` does -/
def CLe (cs cs' : List (Nat × CSt)) : Prop :=
  (KeysNodup cs → KeysNodup cs') ∧ ∀ f : CbEv → Bool, (held cs').countP f ≤ (held cs).countP f

theorem CLe.refl (cs : List (Nat × CSt)) : CLe cs cs := ⟨id, fun _ => Nat.le_refl _⟩

theorem CLe.trans {a b c : List (Nat × CSt)} (h1 : CLe a b) (h2 : CLe b c) : CLe a c :=
  ⟨fun h => h2.1 (h1.1 h), fun f => Nat.le_trans (h2.2 f) (h1.2 f)⟩

theorem CLe.update (cs : List (Nat × CSt)) {c : Nat} {st : CSt}
    (h : evOf c st = none ∨ evOf c st = evOf c (getC cs c)) : CLe cs (setC cs c st) := by
  refine ⟨fun hk => hk.setC c st, fun f => ?_⟩
  have := countP_held_setC f cs c st
  rcases h with h | h <;> rw [h] at this
  · rw [wt_none] at this; omega
  · omega

theorem CLe.setC_none (cs : List (Nat × CSt)) {c : Nat} {st : CSt} (h : evOf c st = none) :
    CLe cs (setC cs c st) :=
  .update cs (.inl h)

theorem CLe.setC_same (cs : List (Nat × CSt)) {c : Nat} {st : CSt} (h : evOf c st = evOf c (getC cs c)) :
    CLe cs (setC cs c st) :=
  .update cs (.inr h)

theorem CLe.block (cs : List (Nat × CSt)) {c : Nat} {st : CSt}
    (h : evOf c st = none ∨ evOf c st = evOf c (getC cs c)) :
    CLe cs (cs.filter (fun p => p.1 != c) ++ [(c, st)]) := by
  refine ⟨fun hk => hk.block c st, fun f => ?_⟩
  have := countP_held_filter_le f cs c
  unfold held at this ⊢
  rw [List.filterMap_append, List.countP_append]
  show _ + (held [(c, st)]).countP f ≤ _
  rw [countP_held_cons, held_nil, List.countP_nil, heldEv]
  rcases h with h | h <;> rw [h]
  · rw [wt_none]; omega
  · omega

theorem CLe.map (cs : List (Nat × CSt)) (g : Nat × CSt → Nat × CSt) (hk : ∀ p, (g p).1 = p.1)
    (hg : ∀ p, (g p).2 = p.2 ∨ ∃ r, (g p).2 = .returned r) : CLe cs (cs.map g) := by
  refine ⟨fun h => h.map g hk, fun f => ?_⟩
  induction cs with
  | nil => exact Nat.le_refl _
  | cons p cs ih =>
    rw [List.map_cons, countP_held_cons, countP_held_cons, heldEv, hk]
    rcases hg p with h | ⟨r, h⟩ <;> rw [h]
    · exact Nat.add_le_add_left ih _
    · show 0 + _ ≤ _
      omega

theorem CLe.mem {cs cs' : List (Nat × CSt)} (h : CLe cs cs') {ev : CbEv} (hm : ev ∈ held cs') : ev ∈ held cs := by
  have h1 : 0 < (held cs').countP (· == ev) := List.countP_pos_iff.2 ⟨ev, hm, beq_self_eq_true ev⟩
  obtain ⟨a, ha, hae⟩ := List.countP_pos_iff.1 (Nat.lt_of_lt_of_le h1 (h.2 _))
  exact (beq_iff_eq.1 hae) ▸ ha

theorem mem_held_setC {cs : List (Nat × CSt)} {c : Nat} {st : CSt} {ev : CbEv}
    (h : ev ∈ held (setC cs c st)) : ev ∈ held cs ∨ evOf c st = some ev := by
  obtain ⟨p, hp, he⟩ := mem_held.1 h
  rcases mem_setC hp with hp | rfl
  · exact .inl (mem_held.2 ⟨p, hp, he⟩)
  · exact .inr he

def monOld : MonPc → Option Slots
  | .events old _ => some old
  | .replyOk old _ => some old
  | .submitNew old => some old
  | _ => none

def cbBusy : CbPc → Bool
  | .got _ => true
  | .calls _ _ => true
  | _ => false

/-- observations no callback invariant looks at -/
def boringObs : Obs → Bool
  | .install _ _ => false
  | .enter _ => false
  | .queued _ _ => false
  | .dropped _ => false
  | .ret _ .unregTrue => false
  | .ret _ (.regOk _) => false
  | .unregProcessed _ => false
  | .regProcessed _ _ _ => false
  | _ => true

def boringRes : Res → Bool
  | .unregTrue => false
  | .regOk _ => false
  | _ => true

theorem boringObs_ret {c : Nat} {r : Res} (h : boringRes r = true) : boringObs (.ret c r) = true := by
  cases r <;> simp_all [boringObs, boringRes]

def LogExt (l l' : List Obs) : Prop := ∃ extra, l' = extra ++ l ∧ ∀ o ∈ extra, boringObs o = true

theorem LogExt.refl (l : List Obs) : LogExt l l := ⟨[], by simp, by simp⟩
theorem LogExt.cons {l l' : List Obs} {o : Obs} (ho : boringObs o = true) (h : LogExt l l') : LogExt l (o :: l') := by
  obtain ⟨e, rfl, he⟩ := h
  exact ⟨o :: e, by simp, by intro x hx; rcases List.mem_cons.1 hx with rfl | hx; exact ho; exact he x hx⟩
theorem LogExt.trans {a b c : List Obs} (h1 : LogExt a b) (h2 : LogExt b c) : LogExt a c := by
  obtain ⟨e1, rfl, he1⟩ := h1
  obtain ⟨e2, rfl, he2⟩ := h2
  exact ⟨e2 ++ e1, by simp, by intro x hx; rcases List.mem_append.1 hx with hx | hx; exact he2 x hx; exact he1 x hx⟩

structure SameCore (s s' : State) : Prop where
  view : s'.view = s.view
  cb : s'.cb = s.cb
  cbch : s'.cbch = s.cbch
  handles : s'.handles = s.handles
  lastSerial : s'.lastSerial = s.lastSerial
  lastVersion : s'.lastVersion = s.lastVersion

theorem SameCore.refl (s : State) : SameCore s s := ⟨rfl, rfl, rfl, rfl, rfl, rfl⟩
theorem SameCore.trans {a b c : State} (h1 : SameCore a b) (h2 : SameCore b c) : SameCore a c :=
  ⟨h2.view.trans h1.view, h2.cb.trans h1.cb, h2.cbch.trans h1.cbch, h2.handles.trans h1.handles,
   h2.lastSerial.trans h1.lastSerial, h2.lastVersion.trans h1.lastVersion⟩

structure Quiet (s s' : State) : Prop where
  core : SameCore s s'
  mon : s'.mon = s.mon
  clients : CLe s.clients s'.clients
  log : LogExt s.log s'.log

theorem Quiet.refl (s : State) : Quiet s s := ⟨.refl s, rfl, .refl _, .refl _⟩
theorem Quiet.trans {a b c : State} (h1 : Quiet a b) (h2 : Quiet b c) : Quiet a c :=
  ⟨h1.core.trans h2.core, h2.mon.trans h1.mon, h1.clients.trans h2.clients, h1.log.trans h2.log⟩

theorem quiet_logAdd (s : State) {o : Obs} (ho : boringObs o = true) : Quiet s (s.logAdd o) :=
  ⟨⟨rfl, rfl, rfl, rfl, rfl, rfl⟩, rfl, .refl _, .cons ho (.refl _)⟩

theorem quiet_ret (s : State) (c : Nat) {r : Res} (hr : boringRes r = true) : Quiet s (s.ret c r) :=
  ⟨⟨rfl, rfl, rfl, rfl, rfl, rfl⟩, rfl, CLe.setC_none _ rfl, .cons (boringObs_ret hr) (.refl _)⟩

theorem quiet_setClient (s : State) (c : Nat) {st : CSt} (h : evOf c st = none) : Quiet s (s.setClient c st) :=
  ⟨⟨rfl, rfl, rfl, rfl, rfl, rfl⟩, rfl, CLe.setC_none _ h, .refl _⟩

theorem quiet_blockClient (s : State) (c : Nat) {st : CSt} (h : evOf c st = none) : Quiet s (s.blockClient c st) :=
  ⟨⟨rfl, rfl, rfl, rfl, rfl, rfl⟩, rfl, CLe.block _ (.inl h), .refl _⟩

theorem quiet_waitOr (s : State) (c ctx : Nat) {st : CSt} {r : Res} (h : evOf c st = none) (hr : boringRes r = true) :
    Quiet s (s.waitOr c ctx st r) := by
  unfold State.waitOr
  split
  · exact quiet_ret s c hr
  · exact quiet_setClient s c h

theorem quiet_replyTo (s : State) (c : Nat) {r : Res} (hr : boringRes r = true) : Quiet s (replyTo s c r) := by
  unfold replyTo
  have h1 : Quiet s (s.logAdd (.replied c r)) := quiet_logAdd s rfl
  dsimp only
  split
  · exact h1.trans (quiet_ret _ c hr)
  · exact h1

theorem quiet_admitCtlSender (s : State) : Quiet s (admitCtlSender s) := by
  unfold admitCtlSender
  split
  · rename_i c ctx _
    exact Quiet.trans (b := { s with monCtl := s.monCtl ++ [(c, ctx)] })
      ⟨⟨rfl, rfl, rfl, rfl, rfl, rfl⟩, rfl, .refl _, .refl _⟩ (quiet_waitOr _ c ctx rfl rfl)
  · exact .refl s

structure Boring (s s' : State) : Prop where
  view : s'.view = s.view
  cb : s'.cb = s.cb ∨ (cbBusy s.cb = false ∧ cbBusy s'.cb = false ∧ (s'.cb = .sel → s.cbch = []))
  cbch : s'.cbch = s.cbch
  handles : s'.handles = s.handles
  lastSerial : s'.lastSerial = s.lastSerial
  lastVersion : s'.lastVersion = s.lastVersion
  mon : monOld s'.mon = monOld s.mon
  clients : CLe s.clients s'.clients
  log : LogExt s.log s'.log

theorem Quiet.boring {s s' : State} (h : Quiet s s') : Boring s s' :=
  ⟨h.core.view, .inl h.core.cb, h.core.cbch, h.core.handles, h.core.lastSerial, h.core.lastVersion,
   by rw [h.mon], h.clients, h.log⟩

theorem Quiet.then {s s1 s' : State} (h : Quiet s s1) (hv : s'.view = s1.view) (hcb : s'.cb = s1.cb)
    (hq : s'.cbch = s1.cbch) (hh : s'.handles = s1.handles) (hl : s'.lastSerial = s1.lastSerial)
    (hlv : s'.lastVersion = s1.lastVersion) (hm : monOld s'.mon = monOld s.mon) (hc : s'.clients = s1.clients)
    (hlog : s'.log = s1.log) : Boring s s' :=
  ⟨hv.trans h.core.view, .inl (hcb.trans h.core.cb), hq.trans h.core.cbch, hh.trans h.core.handles,
   hl.trans h.core.lastSerial, hlv.trans h.core.lastVersion, hm, by rw [hc]; exact h.clients, by rw [hlog]; exact h.log⟩

theorem Boring.trans {a b c : State} (h1 : Boring a b) (h2 : Boring b c) : Boring a c := by
  refine ⟨h2.view.trans h1.view, ?_, h2.cbch.trans h1.cbch, h2.handles.trans h1.handles,
    h2.lastSerial.trans h1.lastSerial, h2.lastVersion.trans h1.lastVersion, h2.mon.trans h1.mon,
    h1.clients.trans h2.clients, h1.log.trans h2.log⟩
  rcases h1.cb with e1 | ⟨x1, y1, z1⟩
  · rcases h2.cb with e2 | ⟨x2, y2, z2⟩
    · exact .inl (e2.trans e1)
    · exact .inr ⟨by rw [← e1]; exact x2, y2, fun hc => by rw [← h1.cbch]; exact z2 hc⟩
  · rcases h2.cb with e2 | ⟨x2, y2, z2⟩
    · exact .inr ⟨x1, by rw [e2]; exact y1, fun hc => z1 (by rw [← e2]; exact hc)⟩
    · exact .inr ⟨x1, y2, fun hc => by rw [← h1.cbch]; exact z2 hc⟩

inductive Logs (l : List Obs) : List Obs → List Obs → Prop
  | refl : Logs l [] l
  | sig {n l' : List Obs} {o : Obs} (ho : boringObs o = false) (h : Logs l n l') : Logs l (o :: n) (o :: l')
  | boring {n l' : List Obs} {o : Obs} (ho : boringObs o = true) (h : Logs l n l') : Logs l n (o :: l')

theorem LogExt.logs {l l' : List Obs} (h : LogExt l l') : Logs l [] l' := by
  obtain ⟨e, rfl, he⟩ := h
  induction e with
  | nil => exact .refl
  | cons o e ih => exact .boring (he o (List.mem_cons_self ..)) (ih fun x hx => he x (List.mem_cons_of_mem _ hx))

theorem Logs.sub {n l l' : List Obs} (h : Logs l n l') {o : Obs} (ho : o ∈ n ∨ o ∈ l) : o ∈ l' := by
  induction h with
  | refl => exact ho.resolve_left (List.not_mem_nil)
  | sig _ _ ih =>
    rcases ho with ho | ho
    · exact (List.mem_cons.1 ho).elim (· ▸ List.mem_cons_self ..) fun ho => List.mem_cons_of_mem _ (ih (.inl ho))
    · exact List.mem_cons_of_mem _ (ih (.inr ho))
  | boring _ _ ih => exact List.mem_cons_of_mem _ (ih ho)

theorem Logs.keep {P : List Obs → Prop} {bad : Obs → Prop} (hP : ∀ o l, ¬ bad o → P l → P (o :: l))
    (hb : ∀ o, bad o → boringObs o = false) {n l l' : List Obs} (h : Logs l n l') (hn : ∀ o ∈ n, ¬ bad o)
    (hl : P l) : P l' := by
  induction h with
  | refl => exact hl
  | sig _ _ ih => exact hP _ _ (hn _ (List.mem_cons_self ..)) (ih fun o ho => hn o (List.mem_cons_of_mem _ ho))
  | boring ho _ ih => exact hP _ _ (fun hbad => by rw [hb _ hbad] at ho; cases ho) (ih hn)

def enters (log : List Obs) : List Call :=
  log.filterMap fun o => match o with | .enter c => some c | _ => none

def insts (log : List Obs) : List Version :=
  log.filterMap fun o => match o with | .install v _ => some v | _ => none

def procs (log : List Obs) : List Nat :=
  log.filterMap fun o => match o with | .regProcessed h _ _ => some h | _ => none

def unregs (log : List Obs) : List Nat :=
  log.filterMap fun o => match o with | .unregProcessed h => some h | _ => none

def oks (log : List Obs) : List Nat :=
  log.filterMap fun o => match o with | .ret _ (.regOk h) => some h | _ => none

theorem LogExt.view {l l' : List Obs} (h : LogExt l l') :
    enters l' = enters l ∧ insts l' = insts l ∧ procs l' = procs l ∧ unregs l' = unregs l ∧ oks l' = oks l := by
  obtain ⟨e, rfl, he⟩ := h
  have key : ∀ {α : Type} (f : Obs → Option α), (∀ o, boringObs o = true → f o = none) →
      (e ++ l).filterMap f = l.filterMap f := fun f hf => by
    rw [List.filterMap_append, List.filterMap_eq_nil_iff.2 fun o ho => hf o (he o ho)]
    rfl
  refine ⟨key _ ?_, key _ ?_, key _ ?_, key _ ?_, key _ ?_⟩ <;>
    intro o ho <;> cases o <;> first | rfl | cases ho | (rename_i r; cases r <;> first | rfl | cases ho)

def gotEv : CbPc → List CbEv
  | .got ev => [ev]
  | _ => []

def curEv : CbPc → Option CbEv
  | .calls _ ev => some ev
  | _ => none

/-- the head of `calls` has been entered -/
def pendOf : CbPc → List Call
  | .calls cs _ => cs.tail
  | _ => []

structure Core where
  view : Version
  /-- the monitor has stored `view` and not yet announced it; `old` is the config it replaced -/
  old : Option Slots
  queue : List CbEv
  cur : Option CbEv
  pend : List Call
  handles : List (Nat × Nat)
  last : Nat
  lastV : Option Slots
  ents : List Call
  insts : List Version
  procs : List Nat
  unregs : List Nat
  oks : List Nat

def core (s : State) : Core :=
  ⟨s.view, monOld s.mon, gotEv s.cb ++ s.cbch, curEv s.cb, pendOf s.cb, s.handles, s.lastSerial, s.lastVersion,
   (pendOf s.cb).reverse ++ enters s.log, insts s.log, procs s.log, unregs s.log, oks s.log⟩

/-- for `enqueueCb_core`: an event handed to the callback goroutine blocked in its select goes to the end of
`queue` only because the channel is then empty -/
def Sel (s : State) : Prop := s.cb = .sel → s.cbch = []

theorem idle_view {cb : CbPc} (h : cbBusy cb = false) : gotEv cb = [] ∧ curEv cb = none ∧ pendOf cb = [] := by
  cases cb <;> first | exact ⟨rfl, rfl, rfl⟩ | cases h

theorem Boring.core {s s' : State} (h : Boring s s') : core s' = core s := by
  obtain ⟨l1, l2, l3, l4, l5⟩ := h.log.view
  unfold Runtime.core
  rw [h.view, h.mon, h.cbch, h.handles, h.lastSerial, h.lastVersion, l1, l2, l3, l4, l5]
  rcases h.cb with e | ⟨e1, e2, _⟩
  · rw [e]
  · obtain ⟨a1, a2, a3⟩ := idle_view e1
    obtain ⟨b1, b2, b3⟩ := idle_view e2
    rw [a1, a2, a3, b1, b2, b3]

theorem Boring.sel {s s' : State} (h : Boring s s') (hs : Sel s) : Sel s' := by
  intro hc
  rw [h.cbch]
  rcases h.cb with e | ⟨_, _, e⟩
  · exact hs (e ▸ hc)
  · exact e hc

def isRU : CbEv → Bool
  | .reg _ _ _ => true
  | .unreg _ _ _ => true
  | _ => false

def regId : CbEv → List Nat
  | .reg h _ _ => [h]
  | _ => []

def unregId : CbEv → List Nat
  | .unreg h _ _ => [h]
  | _ => []

theorem mem_regId {h : Nat} {ev : CbEv} : h ∈ regId ev ↔ ∃ ser cfg, ev = .reg h ser cfg := by
  cases ev <;> simp [regId]
  exact eq_comm

theorem mem_unregId {h : Nat} {ev : CbEv} : h ∈ unregId ev ↔ ∃ k t, ev = .unreg h k t := by
  cases ev <;> simp [unregId]
  exact eq_comm

def SubmitOK (c : Core) : CbEv → Prop
  | .watchErr _ _ _ => c.old = none
  | .newCfg old new _ => c.old = some old ∧ new = c.view
  | _ => False

def handObs (c : Nat) : CbEv → List Obs
  | .reg h _ _ => [.ret c (.regOk h)]
  | _ => []

def lastOf (c : Core) : CbEv → Nat × Option Slots
  | .newCfg _ new _ => (new.serial, some new.cfg)
  | _ => (c.last, c.lastV)

def takeObs (last : Nat) : CbEv → List Obs
  | .reg h ser _ => [.regProcessed h ser last]
  | _ => []

def callsOf (c : Core) (ev : CbEv) : List Call := callsFor c.handles (lastOf c ev).1 (lastOf c ev).2 ev

def taken (c : Core) (ev : CbEv) (q : List CbEv) : Core :=
  { c with queue := q, cur := some ev, pend := callsOf c ev, last := (lastOf c ev).1, lastV := (lastOf c ev).2,
           ents := (callsOf c ev).reverse ++ c.ents, procs := regId ev ++ c.procs }

def finHandles (hs : List (Nat × Nat)) : CbEv → List (Nat × Nat)
  | .reg h ser _ => hs ++ [(h, ser)]
  | .unreg h _ _ => hs.filter (fun x => x.1 != h)
  | _ => hs

def finObs : CbEv → Bool → List Obs
  | .unreg h c _, true => [.ret c .unregTrue, .unregProcessed h]
  | .unreg h _ _, false => [.unregProcessed h]
  | _, _ => []

inductive Eff (s s' : State) : Prop
  | frame (hc : core s' = core s) (hlog : Logs s.log [] s'.log)
  | store (slots' : Slots) (skip : Bool) (hold : (core s).old = none)
      (hc : core s' = { core s with view := ⟨(core s).view.serial + 1, slots'⟩, old := some (core s).view.cfg,
                                    insts := ⟨(core s).view.serial + 1, slots'⟩ :: (core s).insts })
      (hlog : Logs s.log [.install ⟨(core s).view.serial + 1, slots'⟩ skip] s'.log)
  | drop (ev : CbEv) (hc : core s' = { core s with old := none }) (hlog : Logs s.log [.dropped ev] s'.log)
  | pushMon (ev : CbEv) (skip : Bool) (hev : SubmitOK (core s) ev)
      (hc : core s' = { core s with old := none, queue := (core s).queue ++ [ev] })
      (hlog : Logs s.log [.queued ev skip] s'.log)
  | pushCli (c : Nat) (ev : CbEv) (hru : isRU ev = true) (hmem : ev ∈ held s.clients)
      (hcnt : ∀ f, (held s'.clients).countP f + wt f (some ev) ≤ (held s.clients).countP f)
      (hc : core s' = { core s with queue := (core s).queue ++ [ev], oks := regId ev ++ (core s).oks })
      (hlog : Logs s.log (handObs c ev) s'.log)
  | take (ev : CbEv) (q : List CbEv) (hq : (core s).queue = ev :: q) (hp : (core s).pend = [])
      (hc : core s' = taken (core s) ev q) (hlog : Logs s.log (takeObs (core s).last ev) s'.log)
  | next (c : Call) (cs : List Call) (hp : (core s).pend = c :: cs)
      (hc : core s' = { core s with pend := cs }) (hlog : s'.log = .enter c :: s.log)
  /-- `b`: a waiting unregister call returns true -/
  | fin (ev : CbEv) (b : Bool) (hcur : (core s).cur = some ev) (hp : (core s).pend = [])
      (hc : core s' = { core s with cur := none, pend := [], handles := finHandles (core s).handles ev,
                                    unregs := unregId ev ++ (core s).unregs })
      (hlog : s'.log = finObs ev b ++ s.log)

/-- part of a step other than the start of an API call, which alone creates a held event -/
structure Micro (s s' : State) : Prop where
  clients : CLe s.clients s'.clients
  sel : Sel s → Sel s'
  eff : Eff s s'

def Label.isBegin : Label → Bool
  | .begin _ _ _ => true
  | _ => false

/-- Two effects make one step when the callback goroutine dequeues an event and a blocked sender fills the
freed place, when it takes up an event and at once enters its first call or finishes it, and when the monitor
submits an event and logs something boring after it. -/
inductive AStep : State → Label → State → Prop
  | begin {s : State} {c : Nat} (op : Op) (ctx : Nat) (hc : getC s.clients c = .idle) :
      AStep s (.begin c op ctx) (s.setClient c (.ready op ctx))
  | one {s s' : State} {l : Label} (hl : l.isBegin = false) (m : Micro s s') : AStep s l s'
  | two {s s1 s' : State} {l : Label} (hl : l.isBegin = false) (m1 : Micro s s1) (m2 : Micro s1 s') :
      AStep s l s'

theorem Boring.micro {s s' : State} (h : Boring s s') : Micro s s' :=
  ⟨h.clients, h.sel, .frame h.core h.log.logs⟩

theorem AStep.boring {s s' : State} {l : Label} (hl : l.isBegin = false) (hb : Boring s s') :
    AStep s l s' :=
  .one hl hb.micro

structure Inv1 (s : State) : Prop where
  keys : KeysNodup s.clients
  ru : ∀ ev ∈ held s.clients, isRU ev = true
  sel : Sel s

theorem Inv1.micro {s s' : State} (hi : Inv1 s) (m : Micro s s') : Inv1 s' :=
  ⟨m.clients.1 hi.keys, fun ev he => hi.ru ev (m.clients.mem he), m.sel hi.sel⟩

theorem isRU_evOf_ready {c : Nat} {op : Op} {ctx : Nat} {ev : CbEv} (h : evOf c (.ready op ctx) = some ev) :
    isRU ev = true := by
  cases op <;> cases h <;> rfl

theorem Inv1.step {s s' : State} {l : Label} (hi : Inv1 s) (hs : AStep s l s') : Inv1 s' := by
  cases hs with
  | «begin» op ctx hc =>
    refine ⟨hi.keys.setC _ _, fun ev hev => ?_, hi.sel⟩
    rcases mem_held_setC hev with h | h
    · exact hi.ru ev h
    · exact isRU_evOf_ready h
  | one _ m => exact hi.micro m
  | two _ m1 m2 => exact (hi.micro m1).micro m2

theorem core_snoc (s : State) (ev : CbEv) :
    core { s with cbch := s.cbch ++ [ev] } = { core s with queue := (core s).queue ++ [ev] } := by
  have : gotEv s.cb ++ (s.cbch ++ [ev]) = (gotEv s.cb ++ s.cbch) ++ [ev] := (List.append_assoc ..).symm
  unfold Runtime.core
  dsimp only
  rw [this]

theorem enqueueCb_core {s : State} (hs : Sel s) (ev : CbEv) :
    core (enqueueCb s ev) = { core s with queue := (core s).queue ++ [ev] } := by
  unfold enqueueCb cbTake
  split
  · rename_i hc
    unfold Runtime.core
    rw [hs hc, hc]
    rfl
  · exact core_snoc s ev

theorem enqueueCb_sel (s : State) (ev : CbEv) : Sel (enqueueCb s ev) := by
  unfold enqueueCb cbTake
  split
  · intro h; cases h
  · rename_i hne
    intro hc
    exact absurd hc (by simpa using hne)

theorem submit_micro {s : State} (hs : Sel s) (ev : CbEv) (choice : Nat) (m : MonPc) (hev : SubmitOK (core s) ev)
    (hm : monOld m = none) : Micro s { trySubmit s ev choice with mon := m } := by
  unfold trySubmit
  split
  · refine ⟨(enqueueCb_clients s ev).symm ▸ .refl _, fun _ => enqueueCb_sel s ev, .pushMon ev s.skipVerify hev ?_ ?_⟩
    · show { core (enqueueCb s ev) with old := monOld m } = _
      rw [enqueueCb_core hs, hm]
    · show Logs s.log _ (_ :: (enqueueCb s ev).log)
      rw [enqueueCb_log]
      exact .sig rfl .refl
  · refine ⟨.refl _, id, .drop ev ?_ (.sig rfl .refl)⟩
    show { core s with old := monOld m } = _
    rw [hm]

theorem monTake_boring (s : State) (i : MonIn) (hm : monOld s.mon = none) : Boring s (monTake s i) := by
  have hb : ∀ m ctl, monOld m = none → Boring s { s with mon := m, monCtl := ctl } := fun m ctl h =>
    ⟨rfl, .inl rfl, rfl, rfl, rfl, rfl, h.trans hm.symm, .refl _, .refl _⟩
  cases i with
  | ctx => exact hb _ s.monCtl rfl
  | ctl c tok => exact (hb _ _ rfl).trans (quiet_admitCtlSender _).boring
  | msg c m =>
    simp only [monTake]
    have key : ∀ s1 : State, Boring s s1 → Boring s (match m, getC s1.clients c with
        | .value _ _ (some _), .sendW _ ctx => s1.waitOr c ctx (.waitReply ctx) .ctxErr
        | _, _ => s1.ret c .okNil) := by
      intro s1 b
      split
      · exact b.trans (quiet_waitOr _ _ _ rfl rfl).boring
      · exact b.trans (quiet_ret _ _ rfl).boring
    cases m <;> exact key _ (hb _ s.monCtl rfl)

macro "logext" : tactic => `(tactic| repeat (first | exact LogExt.refl _ | apply LogExt.cons rfl))

macro "boring_case" hl:ident hm:ident : tactic =>
  `(tactic| exact AStep.boring $hl ⟨rfl, .inl rfl, rfl, rfl, rfl, rfl, by simp [monOld, State.logAdd, $hm:ident], .refl _, by logext⟩)

theorem quiet_enableSwitch (s : State) (ok noop : Bool) : Quiet s (enableSwitch s ok noop) := by
  unfold enableSwitch
  split
  · exact .refl s
  · exact ⟨⟨rfl, rfl, rfl, rfl, rfl, rfl⟩, rfl, .refl _, .cons rfl (.refl _)⟩

theorem quiet_respondTo (s : State) (c tok : Nat) {r : Res} (hr : boringRes r = true) : Quiet s (respondTo s c tok r) := by
  unfold respondTo
  split
  · split
    · exact quiet_ret s c hr
    · exact .refl s
  · exact .refl s

theorem MonStep.abs {W : World} {s s' : State} {l : Label} {ch : Nat} (hl : l.isBegin = false)
    (hs : Sel s) (h : MonStep W ch s s') : AStep s l s' := by
  cases h with
  | sleep hm _ => boring_case hl hm
  | take i hm _ => exact .boring hl (monTake_boring s i (congrArg monOld hm))
  | gotValue src v reply hm =>
    split
    · boring_case hl hm
    · split <;> boring_case hl hm
  | verifyUpd sl reply hm => split <;> boring_case hl hm
  | submitErr k new reply hm =>
    exact .two hl (submit_micro hs (.watchErr k s.view.cfg new) ch _ (congrArg monOld hm) (by cases reply <;> rfl))
      (quiet_logAdd _ rfl).boring.micro
  | replyErr k c hm =>
    exact .boring hl ((quiet_replyTo s c (by cases k <;> rfl)).then rfl rfl rfl rfl rfl rfl (congrArg monOld hm).symm
      rfl rfl)
  | store sl reply hm =>
    exact .one hl ⟨.refl _, id, .store sl s.skipVerify (congrArg monOld hm) rfl (.sig rfl .refl)⟩
  | events old reply hm => cases reply <;> boring_case hl hm
  | replyOk old c hm =>
    exact .boring hl ((quiet_replyTo s c (r := .okNil) rfl).then rfl rfl rfl rfl rfl rfl (congrArg monOld hm).symm
      rfl rfl)
  | submitNew old hm => exact .one hl (submit_micro hs _ ch _ ⟨congrArg monOld hm, rfl⟩ rfl)
  | gotSrcErr e hm => split <;> boring_case hl hm
  | submitSrcErr e hm => exact .one hl (submit_micro hs _ ch _ (congrArg monOld hm) rfl)
  | gotDone src hm => split <;> boring_case hl hm
  | gotEnable c tok hm => split <;> boring_case hl hm
  | verifyEnable c tok hm => boring_case hl hm
  | enableReply c tok ok noop hm =>
    exact .boring hl (((quiet_enableSwitch s ok noop).trans (quiet_respondTo _ c tok (by split <;> rfl))).then
      rfl rfl rfl rfl rfl rfl (congrArg monOld hm).symm rfl rfl)
  | «exit» hm =>
    refine .boring hl ⟨rfl, ?_, rfl, rfl, rfl, rfl, (congrArg monOld hm).symm, .map _ _ release_fst release_snd,
      .cons rfl (.refl _)⟩
    show (match s.cb with | .sel => CbPc.exit | x => x) = s.cb ∨ _
    cases s.cb <;> first | exact .inl rfl | exact .inr ⟨rfl, rfl, nofun⟩

/-- the common end of `offerCb` and `admitCbSender`, which the model writes out in both -/
def handed (s : State) (c : Nat) (ev : CbEv) (ctx : Nat) : State :=
  match ev with
  | .unreg _ _ _ => s.waitOr c ctx (.waitDone ctx) .unregFalse
  | .reg h _ _ => s.ret c (.regOk h)
  | _ => s.ret c (.regOk 0)

/-- `s` is `s0` with `ev` in the channel or handed to the callback goroutine -/
theorem handed_abs {s0 s : State} {c ctx : Nat} {st : CSt} {ev : CbEv} (hcl : s.clients = s0.clients)
    (hlog : s.log = s0.log) (hsel : Sel s) (hcore : core s = { core s0 with queue := (core s0).queue ++ [ev] })
    (hc : getC s0.clients c = st) (hev : evOf c st = some ev) (hru : isRU ev = true) :
    Micro s0 (handed s c ev ctx) := by
  have hpush : ∀ (s' : State) (st' : CSt), evOf c st' = none → s'.clients = setC s.clients c st' → s'.cb = s.cb →
      s'.cbch = s.cbch → core s' = { core s with oks := regId ev ++ (core s).oks } →
      Logs s.log (handObs c ev) s'.log → Micro s0 s' := by
    intro s' st' h1 h2 h3 h4 h5 h6
    rw [hcl] at h2
    refine ⟨h2 ▸ CLe.setC_none _ h1, fun _ hc' => h4 ▸ hsel (h3 ▸ hc'),
      .pushCli c ev hru (getC_held (hc ▸ hev)) (fun f => ?_) (h5.trans (by rw [hcore])) (hlog ▸ h6)⟩
    have := countP_held_setC f s0.clients c st'
    rw [hc, hev, h1, wt_none] at this
    rw [h2]
    omega
  cases ev with
  | reg h ser cfg => exact hpush _ (.returned (.regOk h)) rfl rfl rfl rfl rfl (.sig rfl .refl)
  | unreg h c' tok =>
    show Micro s0 (s.waitOr c ctx (.waitDone ctx) .unregFalse)
    unfold State.waitOr
    split
    · exact hpush _ (.returned .unregFalse) rfl rfl rfl rfl rfl (.boring rfl .refl)
    · exact hpush _ (.waitDone ctx) rfl rfl rfl rfl rfl .refl
  | newCfg _ _ _ => cases hru
  | watchErr _ _ _ => cases hru

theorem admit_abs {s : State} (h1 : Inv1 s) (hcb : s.cb ≠ .sel) : admitCbSender s = s ∨ Micro s (admitCbSender s) := by
  unfold admitCbSender
  split
  · next c ev ctx hf =>
    exact .inr (handed_abs (s := { s with cbch := s.cbch ++ [ev] }) rfl rfl (fun hc => absurd hc hcb) (core_snoc s ev)
      (find_getC h1.keys hf) rfl (h1.ru ev (mem_held.2 ⟨_, List.mem_of_find?_eq_some hf, rfl⟩)))
  · exact .inl rfl

/-- all calls of `ev` become pending; since `pendOf` drops the head, the state between the two effects has a
fictitious first call `c0` -/
theorem take_abs {s : State} {ev : CbEv} (hcb : s.cb = .got ev) (c0 : Call) :
    Micro s { cbPre s ev with cb := .calls (c0 :: cbCalls s ev) ev } := by
  obtain ⟨s0, rfl⟩ : ∃ s0 : State, s = { s0 with cb := .got ev } := ⟨s, by rw [← hcb]⟩
  cases ev with
  | newCfg old new supp =>
    cases supp
    · exact ⟨.refl _, fun _ hc => CbPc.noConfusion hc, .take _ _ rfl rfl rfl .refl⟩
    · exact ⟨.refl _, fun _ hc => CbPc.noConfusion hc, .take _ _ rfl rfl rfl (.boring rfl .refl)⟩
  | reg h ser cfg => exact ⟨.refl _, fun _ hc => CbPc.noConfusion hc, .take _ _ rfl rfl rfl (.sig rfl .refl)⟩
  | watchErr _ _ _ | unreg _ _ _ => exact ⟨.refl _, fun _ hc => CbPc.noConfusion hc, .take _ _ rfl rfl rfl .refl⟩

theorem next_abs {s0 : State} (s : State) (c0 c : Call) (cs : List Call) (ev : CbEv)
    (h : s0 = { s with cb := .calls (c0 :: c :: cs) ev }) :
    Micro s0 ({ s with cb := .calls (c :: cs) ev }.logAdd (.enter c)) := by
  subst h
  refine ⟨.refl _, fun _ hc => CbPc.noConfusion hc, .next c cs rfl ?_ rfl⟩
  have : cs.reverse ++ c :: enters s.log = (c :: cs).reverse ++ enters s.log := by
    rw [List.reverse_cons, List.append_assoc]; rfl
  show (⟨_, _, _, _, _, _, _, _, cs.reverse ++ c :: enters s.log, _, _, _, _⟩ : Core) = _
  rw [this]
  rfl

theorem fin_abs {s0 : State} (s : State) (c0 : Call) (ev : CbEv) (h : s0 = { s with cb := .calls [c0] ev }) :
    Micro s0 { finishEv s ev with cb := .top } := by
  subst h
  have hsel : ∀ s1 s' : State, s'.cb = .top → Sel s1 → Sel s' := fun _ s' e _ hc => by rw [e] at hc; cases hc
  cases ev with
  | newCfg _ _ _ | watchErr _ _ _ | reg _ _ _ => exact ⟨.refl _, hsel _ _ rfl, .fin _ false rfl rfl rfl rfl⟩
  | unreg h c tok =>
    unfold finishEv
    dsimp only
    split
    · split
      · exact ⟨CLe.setC_none _ rfl, hsel _ _ rfl, .fin _ true rfl rfl rfl rfl⟩
      · exact ⟨.refl _, hsel _ _ rfl, .fin _ false rfl rfl rfl rfl⟩
    · exact ⟨.refl _, hsel _ _ rfl, .fin _ false rfl rfl rfl rfl⟩

theorem CbStep.abs {s s' : State} {l : Label} (hl : l.isBegin = false) (h1 : Inv1 s) (h : CbStep s s') :
    AStep s l s' := by
  cases h with
  | deq ev rest hc hq =>
    have m1 : Micro s (cbTake { s with cbch := rest } ev) :=
      ⟨.refl _, fun _ hc => CbPc.noConfusion hc, .frame (by unfold Runtime.core; rw [hc, hq]; rfl) .refl⟩
    rcases admit_abs (h1.micro m1) (fun hc => CbPc.noConfusion hc) with he | m2
    · rw [he]; exact .one hl m1
    · exact .two hl m1 m2
  | idle hc hq =>
    exact .boring hl ⟨rfl, .inr (by cases s.monDone <;> simp [cbBusy, hc, hq]), rfl, rfl, rfl, rfl, rfl, .refl _, .refl _⟩
  | skip ev hc hcs => exact .two hl (hcs ▸ take_abs hc (.onErr .stack [] none)) (fin_abs _ _ ev rfl)
  | call ev c cs hc hcs => exact .two hl (hcs ▸ take_abs hc (.onErr .stack [] none)) (next_abs _ _ c cs ev rfl)
  | next c0 c cs ev hc => exact .one hl (next_abs s c0 c cs ev (by rw [← hc]))
  | last c ev hc => exact .one hl (fin_abs s c ev (by rw [← hc]))
  | «exit» hc => exact .boring hl ⟨rfl, .inr (by simp [cbBusy, hc]), rfl, rfl, rfl, rfl, rfl, .refl _, .refl _⟩

theorem offerW_boring (s : State) (c : Nat) (m : Msg) (ctx choice : Nat) :
    Boring s (offerW s c m ctx choice) := by
  unfold offerW
  dsimp only
  split
  · rename_i hcond
    have hm : s.mon = .sel := by
      simp only [Bool.and_eq_true, beq_iff_eq] at hcond
      exact hcond.1
    exact (quiet_setClient s c (st := .sendW m ctx) rfl).boring.trans
      (monTake_boring _ _ (by simp [State.setClient, hm, monOld]))
  · split
    · exact (quiet_ret s c rfl).boring
    · exact (quiet_blockClient s c (st := .sendW m ctx) rfl).boring

theorem offerCb_abs {s : State} {l : Label} (hl : l.isBegin = false) (hs : Sel s) {c : Nat} {op : Op}
    {ctx : Nat} {ev : CbEv} (choice : Nat) (hc : getC s.clients c = .ready op ctx)
    (hev : evOf c (.ready op ctx) = some ev) : AStep s l (offerCb s c ev ctx choice) := by
  have hfail : ∀ r, boringRes r = true → AStep s l (s.ret c r) := fun r hr => .boring hl (quiet_ret s c hr).boring
  unfold offerCb
  dsimp only
  split
  · exact hfail _ (by split <;> rfl)
  · split
    · exact .one hl (handed_abs (enqueueCb_clients s ev) (enqueueCb_log s ev) (enqueueCb_sel s ev) (enqueueCb_core hs ev)
        hc hev (isRU_evOf_ready hev))
    · split
      · exact hfail _ (by split <;> rfl)
      · exact .boring hl ⟨rfl, .inl rfl, rfl, rfl, rfl, rfl, rfl, CLe.block _ (.inr (by rw [hc, hev]; rfl)), .refl _⟩

theorem offerCtl_boring (s : State) (c ctx choice : Nat) : Boring s (offerCtl s c ctx choice) := by
  have q1 : Quiet s (s.logAdd (.enableCalled c)) := quiet_logAdd s rfl
  unfold offerCtl
  dsimp only
  split
  · have q2 := q1.trans (quiet_waitOr (s.logAdd (.enableCalled c)) c ctx (st := .waitResp ctx) (r := .ctxErr) rfl rfl)
    split
    · next hsel => exact q2.then rfl rfl rfl rfl rfl rfl (by rw [← q2.mon, beq_iff_eq.1 hsel]; rfl) rfl rfl
    · exact q2.then rfl rfl rfl rfl rfl rfl (by rw [← q2.mon]) rfl rfl
  · split
    · exact (q1.trans (quiet_ret _ c rfl)).boring
    · exact (q1.trans (quiet_blockClient _ c (st := .sendCtl ctx) rfl)).boring

theorem ClStep.abs {s s' : State} {l : Label} {c ch : Nat} (hl : l.isBegin = false) (hs : Sel s)
    (h : ClStep s c ch s') : AStep s l s' := by
  cases h with
  | view ctx hc => exact .boring hl ((quiet_ret s c (r := .version s.view) rfl).trans (quiet_logAdd _ rfl)).boring
  | recv ctx v hc he =>
    have q0 : Quiet s { s with events := none } := ⟨⟨rfl, rfl, rfl, rfl, rfl, rfl⟩, rfl, .refl _, .refl _⟩
    exact .boring hl ((q0.trans (quiet_ret _ c (r := .event v.cfg) rfl)).trans (quiet_logAdd _ rfl)).boring
  | noEvent ctx hc he => exact .boring hl (quiet_ret s c rfl).boring
  | report src v blocking ctx hc => exact .boring hl (offerW_boring ..)
  | reportErr src e ctx hc => exact .boring hl (offerW_boring ..)
  | done src ctx hc => exact .boring hl (offerW_boring ..)
  | register h ser cfg ctx hc => exact offerCb_abs hl hs ch hc rfl
  | unregister h ctx hc => exact offerCb_abs hl hs ch hc rfl
  | enableNow ctx hc hd => exact .boring hl (quiet_ret s c rfl).boring
  | enable ctx hc hd => exact .boring hl (offerCtl_boring ..)

theorem Frame.monOld_eq {p : Obs → Bool} {s s' : State} (h : Frame p s s') : monOld s'.mon = monOld s.mon := by
  have key : ∀ m : MonPc, m.idle = true ∨ monWake m = true → monOld m = none := by
    intro m hm
    cases m <;> first | rfl | (rcases hm with hm | hm <;> cases hm)
  rcases h.mon with e | ⟨hi, hw⟩
  · rw [e]
  · rw [key _ (.inl hi), key _ hw]

theorem cancelCtx_boring (s : State) (ctx : Nat) : Boring s (cancelCtx s ctx) := by
  rw [cancelCtx_shape]
  exact ⟨rfl, .inl rfl, rfl, rfl, rfl, rfl, (frame_cancelCtx (p := clientObs) s ctx).monOld_eq,
    cancelCtx_clients s ctx ▸ .map _ _ (wake_fst ctx) (wake_snd ctx), .refl _⟩

theorem step_abs {W : World} {s s' : State} {l : Label} (h1 : Inv1 s) (h : step W s l = some s') : AStep s l s' := by
  cases Step.of_step h with
  | «begin» c op ctx hc => exact .begin op ctx hc
  | ack c r hc => exact .boring rfl (quiet_setClient s c rfl).boring
  | mon ch h => exact h.abs rfl h1.sel
  | cb h => exact h.abs rfl h1
  | client c ch h => exact h.abs rfl h1.sel
  | cancel ctx => exact .boring rfl (cancelCtx_boring s ctx)

end Dials.Runtime
