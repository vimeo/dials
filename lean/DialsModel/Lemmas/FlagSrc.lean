/-
Helper lemmas for Props/C12.lean (flag sources).
-/
import DialsModel.Model.FlagSrc
import DialsModel.Lemmas.Parse
import DialsModel.Lemmas.Tf

namespace Dials.FlagSrc
open Dials Dials.Tf Dials.Parse

theorem runFlag_cons (toks : TokTable) (r : Route) (st : FSt) (o : Occ) (os : List Occ) :
    runFlag toks r st (o :: os) =
      (match setOne toks r st o with
       | .ok st' => runFlag toks r st' os
       | .err c => .err c
       | .panic c => .panic c) := rfl

theorem runFlag_single (toks : TokTable) (r : Route) (st : FSt) (o : Occ) :
    runFlag toks r st [o] = setOne toks r st o := by
  rw [runFlag_cons]
  cases setOne toks r st o <;> rfl

theorem runFlag_append (toks : TokTable) (r : Route) (xs ys : List Occ) : ∀ st,
    runFlag toks r st (xs ++ ys) =
      (match runFlag toks r st xs with
       | .ok st' => runFlag toks r st' ys
       | .err c => .err c
       | .panic c => .panic c) := by
  induction xs with
  | nil => intro st; rfl
  | cons x xs ih =>
    intro st
    rw [List.cons_append, runFlag_cons, runFlag_cons]
    cases setOne toks r st x with
    | ok st' => exact ih st'
    | err c => rfl
    | panic c => rfl

/-- a property of the flag's state that every accepted `Set` establishes / preserves -/
theorem runFlag_invariant (toks : TokTable) (r : Route) (P : FSt → Prop)
    (hstep : ∀ st o st', P st → setOne toks r st o = .ok st' → P st') :
    ∀ (os : List Occ) (st st' : FSt), P st → runFlag toks r st os = .ok st' → P st' := by
  intro os
  induction os with
  | nil => intro st st' hp h; cases h; exact hp
  | cons o os ih =>
    intro st st' hp h
    rw [runFlag_cons] at h
    cases hs : setOne toks r st o with
    | ok st1 => rw [hs] at h; exact ih st1 st' (hstep st o st1 hp hs) h
    | _ => rw [hs] at h; cases h

/-- the collection helpers: every accepted `Set` replaces the value while the flag still holds its default and combines
with it (`op`) afterwards, so a run is the fold of the occurrences' parts over the first one's.  `mk` / `get` are the
constructor of `Acc` the helper stores its value in and its projection. -/
theorem runFlag_accumulate {α} (toks : TokTable) (r : Route) (mk : List α → Acc) (get : Acc → List α)
    (hget : ∀ l, get (mk l) = l) (op : List α → List α → List α) (part : Occ → List α) (d : Acc) (o : Occ) (os : List Occ)
    (hstep : ∀ x ∈ o :: os, ∀ st, setOne toks r st x =
      .ok ⟨mk (if st.defaulted then part x else op (get st.cur) (part x)), false⟩) :
    runFlag toks r ⟨d, true⟩ (o :: os) = .ok ⟨mk (os.foldl (fun a x => op a (part x)) (part o)), false⟩ := by
  have hrest : ∀ (os : List Occ) (l : List α), (∀ x ∈ os, ∀ st, setOne toks r st x =
      .ok ⟨mk (if st.defaulted then part x else op (get st.cur) (part x)), false⟩) →
      runFlag toks r ⟨mk l, false⟩ os = .ok ⟨mk (os.foldl (fun a x => op a (part x)) l), false⟩ := by
    intro os
    induction os with
    | nil => intro l _; rfl
    | cons x xs ih =>
      intro l h
      rw [runFlag_cons, h x (by simp)]
      simp only [Bool.false_eq_true, if_false, hget, List.foldl_cons]
      exact ih _ fun y hy => h y (by simp [hy])
  rw [runFlag_cons, hstep o (by simp)]
  exact hrest os _ fun x hx => hstep x (by simp [hx])

theorem foldl_append_flatMap {α β} (f : α → List β) (os : List α) : ∀ acc,
    os.foldl (fun a o => a ++ f o) acc = acc ++ os.flatMap f := by
  induction os with
  | nil => intro acc; simp
  | cons o os ih => intro acc; simp [ih, List.append_assoc]

theorem helperReplaces_all :
    helperReplaces "StringSliceFlag" = true ∧ helperReplaces "StringSetFlag" = true ∧
    helperReplaces "MapStringStringSliceFlag" = true ∧ helperReplaces "MapStringStringFlag" = true ∧
    helperReplaces "SignedIntegralSliceFlag" = true ∧ helperReplaces "UnsignedIntegralSliceFlag" = true := by
  decide

theorem setOne_strSlice_ok {toks : TokTable} {st : FSt} {o : Occ} {items : List S}
    (h : stringSlice (o.text == "") (toks o.text).1 = .ok items) :
    setOne toks .strSlice st o =
      .ok ⟨.strs (if st.defaulted then items.map ofS else st.cur.strsOf ++ items.map ofS), false⟩ := by
  simp only [setOne, h, helperReplaces_all.1, Bool.and_true]

theorem setOne_strSet_ok {toks : TokTable} {st : FSt} {o : Occ} {items : List S}
    (h : stringSet (o.text == "") (toks o.text).1 = .ok items) :
    setOne toks .strSet st o =
      .ok ⟨.strs (if st.defaulted then items.map ofS else unionStrs st.cur.strsOf (items.map ofS)), false⟩ := by
  simp only [setOne, h, helperReplaces_all.2.1, Bool.and_true]

theorem setOne_mapSSlice_ok {toks : TokTable} {st : FSt} {o : Occ} {ps : List (S × S)}
    (h : mapStringStringSlice (toks o.text).2 = .ok ps) :
    setOne toks .mapSSlice st o =
      .ok ⟨.pairs (if st.defaulted then ps.map ofPair else st.cur.pairsOf ++ ps.map ofPair), false⟩ := by
  simp only [setOne, h, helperReplaces_all.2.2.1, Bool.and_true]

theorem setOne_mapSS_ok {toks : TokTable} {st : FSt} {o : Occ} {ps : List (S × S)}
    (h : mapStringString (toks o.text).2 = .ok ps) :
    setOne toks .mapSS st o =
      .ok ⟨.pairs (if st.defaulted then ps.map ofPair else mergePairs st.cur.pairsOf (ps.map ofPair)), false⟩ := by
  simp only [setOne, h, helperReplaces_all.2.2.2.1, Bool.and_true]

theorem setOne_intSlice_ok {toks : TokTable} {k : IntKind} {st : FSt} {o : Occ} {vs : List Int}
    (h : parseIntSlice k o.text.toList = .ok vs) :
    setOne toks (.intSlice k) st o =
      .ok ⟨.ints (if st.defaulted then vs else st.cur.intsOf ++ vs), false⟩ := by
  have hr : helperReplaces (if k.signed then "SignedIntegralSliceFlag" else "UnsignedIntegralSliceFlag") = true := by
    cases k.signed
    · exact helperReplaces_all.2.2.2.2.2
    · exact helperReplaces_all.2.2.2.2.1
  simp only [setOne, h, hr, Bool.and_true]

/-- an accepted `Set` of an integral-slice flag leaves a value within the element type's range -/
theorem setOne_intSlice_inRange {toks : TokTable} {k : IntKind} {st st' : FSt} {o : Occ}
    (h : setOne toks (.intSlice k) st o = .ok st')
    (hst : st.defaulted = false → ∀ v ∈ st.cur.intsOf, k.inRange v = true) :
    st'.defaulted = false ∧ ∀ v ∈ st'.cur.intsOf, k.inRange v = true := by
  cases hp : parseIntSlice k o.text.toList with
  | ok vs =>
    rw [setOne_intSlice_ok hp] at h
    cases h
    refine ⟨rfl, fun v hv => ?_⟩
    cases hd : st.defaulted <;> simp only [hd, Acc.intsOf, if_true, if_false, Bool.false_eq_true, List.mem_append] at hv
    · exact hv.elim (hst hd v) (parseIntSlice_sound hp v)
    · exact parseIntSlice_sound hp v hv
  | _ => simp [setOne, hp] at h

theorem isOk_elim {α} {x : Outcome α} (h : x.isOk = true) : ∃ a, x = .ok a := by
  cases x with
  | ok a => exact ⟨a, rfl⟩
  | err c => cases h
  | panic c => cases h

theorem putPair_any_key (a : List (String × String)) (kv : String × String) (k : String) :
    (putPair a kv).any (·.1 == k) = (a.any (·.1 == k) || kv.1 == k) := by
  unfold putPair
  by_cases hc : a.any (·.1 == kv.1) = true
  · simp only [hc, if_true]
    have hmap : (a.map fun p => if p.1 == kv.1 then kv else p).any (·.1 == k) = a.any (·.1 == k) := by
      rw [List.any_map]
      congr
      funext p
      by_cases hp : p.1 = kv.1 <;> simp [hp]
    rw [hmap]
    by_cases hk : kv.1 = k
    · subst hk; simp [hc]
    · simp [hk]
  · simp [hc, List.any_append]

theorem toOption_congr {α} {a b : Outcome α} (h : ∀ v, a = .ok v ↔ b = .ok v) : a.toOption = b.toOption := by
  cases a with
  | ok v => rw [(h v).1 rfl]
  | err c => cases b with
    | ok w => exact nomatch (h w).2 rfl
    | _ => rfl
  | panic c => cases b with
    | ok w => exact nomatch (h w).2 rfl
    | _ => rfl

/-- the standard-library flags parse with 64 bits and narrow afterwards under the guard: that is `parseNumber` -/
theorem intFlagValue_std (k : IntKind) (text : String) :
    intFlagValue true k.signed 64 k text = parseNumber k text.toList := by
  rw [parseNumber_eq]
  rfl

/-- no panic: what an integer flag does not accept is an error -/
theorem intFlagValue_err_of_not_ok {c sg : Bool} {bits : Nat} {k : IntKind} {text : String}
    (h : ∀ v, intFlagValue c sg bits k text ≠ .ok v) : ∃ e, intFlagValue c sg bits k text = .err e := by
  cases hp : intFlagValue c sg bits k text with
  | ok v => exact absurd hp (h v)
  | err e => exact ⟨e, rfl⟩
  | panic e =>
    unfold intFlagValue at hp
    split at hp
    · split at hp
      · cases hp
      · split at hp <;> cases hp
    · cases hp

/-- parsing with the leaf's own width accepts a literal of the kind's signedness whose value is in the kind's range -/
theorem intFlagValue_own_ok_iff (c : Bool) (k : IntKind) (text : String) (v : Int) :
    intFlagValue c k.signed k.bits k text = .ok v ↔ litOf k.signed text.toList = some v ∧ k.inRange v = true := by
  unfold intFlagValue
  constructor
  · intro h
    split at h
    · rename_i w hw
      have hw' := readInt_eq_some_iff.1 (show readInt k.signed k.bits text.toList = some w from hw)
      have hin := (inRange_iff k w).2 hw'.2
      rw [if_pos hin] at h
      cases h
      exact ⟨hw'.1, hin⟩
    · cases h
  · rintro ⟨hl, hr⟩
    rw [show parseFlagInt k.signed k.bits text = some v from readInt_eq_some_iff.2 ⟨hl, (inRange_iff k v).1 hr⟩]
    simp [hr]

/-- ... which are the same accepted texts and values as `parseNumber`'s -/
theorem intFlagValue_own (c : Bool) (k : IntKind) (text : String) :
    (intFlagValue c k.signed k.bits k text).toOption = (parseNumber k text.toList).toOption :=
  toOption_congr fun v => (intFlagValue_own_ok_iff c k text v).trans parseNumber_eq_ok_iff.symm

/-- with pairwise distinct names every occurrence of `n` in the indexed list is the one at `j` -/
theorem lastIdxOf_nodup (names : List String) (n : String) (j : Nat) (hnd : names.Nodup) (h : names[j]? = some n) :
    lastIdxOf names n = some j := by
  have hall : ∀ p ∈ names.zipIdx.filter (·.1 == n), p = (n, j) := by
    intro ⟨x, i⟩ hp
    obtain ⟨hm, hx⟩ := List.mem_filter.1 hp
    obtain rfl : x = n := by simpa using hx
    have hi : names[i]? = some x := List.mem_zipIdx_iff_getElem?.1 hm
    rw [(List.getElem?_inj (List.getElem?_eq_some_iff.1 hi).1 hnd).1 (hi.trans h.symm)]
  unfold lastIdxOf
  cases hl : (names.zipIdx.filter (·.1 == n)).getLast? with
  | none =>
    have : (n, j) ∈ names.zipIdx.filter (·.1 == n) := List.mem_filter.2 ⟨List.mem_zipIdx_iff_getElem?.2 h, by simp⟩
    rw [List.getLast?_eq_none_iff.1 hl] at this
    cases this
  | some p => rw [hall p (List.mem_of_getLast? hl)]; rfl

theorem regIdxOf_nodup (regs : List Reg) (hnd : (regs.map (·.name)).Nodup) (j : Nat) (rj : Reg)
    (hj : regs[j]? = some rj) (hr : rj.route ≠ .unreg) : regIdxOf regs rj.name = some j := by
  unfold regIdxOf
  rw [List.findIdx?_eq_some_iff_getElem]
  obtain ⟨hlt, hget⟩ := List.getElem?_eq_some_iff.1 hj
  refine ⟨hlt, ?_, ?_⟩
  · rw [hget]; simp [hr]
  · intro i hij hp
    have hil : i < regs.length := by omega
    simp only [Bool.and_eq_true, beq_iff_eq] at hp
    have : (regs.map (·.name))[i]? = (regs.map (·.name))[j]? := by simp [hil, hlt, hp.2, hget]
    exact absurd ((List.getElem?_inj (by simpa using hil) hnd).1 this) (by omega)

theorem mapM'_ok_getElem? {α β} (f : α → Outcome β) : ∀ (xs : List α) (ys : List β), mapM' f xs = .ok ys →
    ∀ (i : Nat) (x : α), xs[i]? = some x → ∃ y, ys[i]? = some y ∧ f x = .ok y := by
  intro xs
  induction xs with
  | nil => intro ys _ i x hx; simp at hx
  | cons a as ih =>
    intro ys h i x hx
    obtain ⟨b, bs, hb, hbs, rfl⟩ := mapM'_cons_ok h
    cases i with
    | zero => cases hx; exact ⟨b, rfl, hb⟩
    | succ i => exact ih bs hbs i x hx

theorem flagResult_not_given (p : Pkg) (toks : TokTable) (reg : Reg) (occs : List Occ)
    (hno : ∀ o ∈ occs, o.name ≠ reg.name) : flagResult p toks reg occs = .ok none := by
  have he : occsOf reg.name occs = [] := by
    simp only [occsOf, List.filter_eq_nil_iff]
    intro o ho
    simpa using hno o ho
  have hv : p.visitAll = false := by cases p <;> decide
  simp [flagResult, he, hv]

theorem fieldVal_not_given (p : Pkg) (toks : TokTable) (regs : List Reg) (occs : List Occ)
    (results : List (Option Val)) (hres : mapM' (fun reg => flagResult p toks reg occs) regs = .ok results)
    (j : Nat) (rj : Reg) (hno : ∀ o ∈ occs, o.name ≠ rj.name) :
    fieldVal regs results j rj = .ok .nilv := by
  unfold fieldVal
  cases hri : regIdxOf regs rj.name with
  | none => rfl
  | some i =>
    simp only []
    unfold regIdxOf at hri
    obtain ⟨hil, hp, _⟩ := List.findIdx?_eq_some_iff_getElem.1 hri
    simp only [Bool.and_eq_true, beq_iff_eq] at hp
    obtain ⟨y, hy, hfy⟩ := mapM'_ok_getElem? _ regs results hres i regs[i] (List.getElem?_eq_getElem hil)
    rw [flagResult_not_given p toks regs[i] occs (by rw [hp.2]; exact hno)] at hfy
    cases hfy
    rw [hy]

/-- a successful `Value` went through the visit: per-flag results, then per-field values -/
theorem fieldVals_ok {p : Pkg} {toks : TokTable} {regs : List Reg} {occs : List Occ} {vals : List Val}
    (h : fieldVals p toks regs occs = .ok vals) :
    ∃ results, mapM' (fun reg => flagResult p toks reg occs) regs = .ok results ∧
      mapM' (fun (x : Reg × Nat) => fieldVal regs results x.2 x.1) regs.zipIdx = .ok vals := by
  unfold fieldVals at h
  split at h
  · cases h
  · cases h
  · split at h
    · cases h
    · split at h
      · exact ⟨_, by assumption, h⟩
      · cases h
      · cases h

theorem tagGet_tagSet (tags : List (String × String)) (k v q : String) :
    tagGet (tagSet tags k v) q = if k = q then some v else tagGet tags q := by
  induction tags with
  | nil => simp [tagSet, tagGet]
  | cons a r ih =>
    obtain ⟨k', v'⟩ := a
    unfold tagGet at ih
    by_cases hk : k' = k
    · subst hk
      by_cases hq : k' = q <;> simp [tagSet, tagGet, hq]
    · by_cases hq : k' = q
      · subst hq
        simp [tagSet, tagGet, hk, Ne.symm hk]
      · simp [tagSet, tagGet, hk, hq, ih]

/-- the outputs of one field of `flattenStruct` -/
def flatHere (cfg : FlattenCfg) (fuel : Nat) (fNames words' fPath : List String) (tags : List (String × String)) (nt : Ty) :
    Outcome (List FT) :=
  match stripPtrs nt with
  | .struct ifs => flattenStruct cfg fuel fNames words' fPath ifs.toList
  | _ => .ok [({ name := encode cfg.nameEnc fNames, tags := tags, anon := false }, nt)]

/-- a successful `flattenStruct` on a non-empty field list: the first field's tags, its own outputs, the other fields' -/
theorem flattenStruct_cons_ok {cfg : FlattenCfg} {fuel : Nat} {names words path : List String} {nh : Hdr} {nt : Ty}
    {rest outs : List FT} (h : flattenStruct cfg (fuel + 1) names words path ((nh, nt) :: rest) = .ok outs) :
    ∃ tags words' a b, flattenGetTag cfg nh words (path ++ [nh.name]) = .ok (tags, words') ∧
      flatHere cfg fuel (if nh.anon then names else names ++ [nh.name]) words' (path ++ [nh.name]) tags nt = .ok a ∧
      flattenStruct cfg fuel names words path rest = .ok b ∧ outs = a ++ b := by
  simp only [flattenStruct] at h
  split at h
  · cases h
  · cases h
  · rename_i tags words' hg
    split at h <;> cases h
    exact ⟨tags, words', _, _, hg, by assumption, by assumption, rfl⟩

/-- `getTag` adds the field's words - its tag verbatim, else (unless it is embedded) the words of its Go name - and sets
the two tags -/
theorem flattenGetTag_eq (cfg : FlattenCfg) (nh : Hdr) (words path : List String) :
    flattenGetTag cfg nh words path =
      match (match tagGet nh.tags cfg.tag with
           | some tv => some [tv]
           | none => if nh.anon then some [] else (CaseConv.decodeGoCamel nh.name.toList).map (·.map strOf)) with
      | some ws => .ok (tagSet (tagSet nh.tags cfg.tag (encode cfg.tagEnc (words ++ ws))) "dialsfieldpath" (",".intercalate path),
          words ++ ws)
      | none => .err "error decoding field name" := by
  unfold flattenGetTag
  cases tagGet nh.tags cfg.tag with
  | some tv => rfl
  | none =>
    cases nh.anon with
    | true => simp
    | false => cases CaseConv.decodeGoCamel nh.name.toList <;> rfl

theorem flattenGetTag_ok (cfg : FlattenCfg) (htag : cfg.tag ≠ "dialsfieldpath") (nh : Hdr) (words path : List String)
    (tags : List (String × String)) (words' : List String)
    (h : flattenGetTag cfg nh words path = .ok (tags, words')) :
    ∃ ws, (match tagGet nh.tags cfg.tag with
           | some tv => some [tv]
           | none => if nh.anon then some [] else (CaseConv.decodeGoCamel nh.name.toList).map (·.map strOf)) = some ws ∧
      words' = words ++ ws ∧ tagGet tags cfg.tag = some (encode cfg.tagEnc words') ∧
      (tagGet tags "dialsfieldpath").isSome = true := by
  rw [flattenGetTag_eq] at h
  split at h
  · rename_i ws hws
    cases h
    refine ⟨ws, hws, rfl, ?_, ?_⟩
    · rw [tagGet_tagSet, if_neg (Ne.symm htag), tagGet_tagSet, if_pos rfl]
    · rw [tagGet_tagSet, if_pos rfl]; rfl
  · cases h

/-- the token table of the non-vacuity examples in Props/C12.lean: the texts "ab" and "c" scan to the canonical token
streams of ["a","b"] / {a:1,b:2} and ["c"] / {b:3} -/
def exampleToks : TokTable := fun s =>
  if s == "ab" then (canonSlice ["a".toList, "b".toList], canonMap [("a".toList, "1".toList), ("b".toList, "2".toList)])
  else if s == "c" then (canonSlice ["c".toList], canonMap [("b".toList, "3".toList)])
  else ([], [])

end Dials.FlagSrc
