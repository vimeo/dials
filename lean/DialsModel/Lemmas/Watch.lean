/-
Lemmas for Props/C17.lean.  The watch-loop model (Model/Watch.lean) with the regenerated facts F15* put in: what
`Source.Value` answers, what one pass remembers, reports and watches, by what it read.  If a fact changes these
equations no longer check.
-/
import DialsModel.Model.Watch

namespace Dials.Watch

variable {V : Type}

theorem reports_append (a b : List (Action V)) : reports (a ++ b) = reports a ++ reports b := by
  induction a with
  | nil => rfl
  | cons x xs ih => cases x <;> simp [reports, ih]

theorem errorsReported_append (a b : List (Action V)) :
    errorsReported (a ++ b) = errorsReported a ++ errorsReported b := by
  induction a with
  | nil => rfl
  | cons x xs ih => cases x <;> simp [errorsReported, ih]

theorem lastReported_append (v0 : V) (a b : List (Action V)) :
    lastReported v0 (a ++ b) = lastReported (lastReported v0 a) b := by
  unfold lastReported
  rw [reports_append, List.getLast?_append]
  cases (reports b).getLast? <;> rfl

theorem value_content (dec : Bytes → Option V) (last : Option Bytes) (b : Bytes) :
    value dec last (.content b) = match dec b with
      | none => (last, .decErr)
      | some v => (some b, if last = some b then .unchanged else .ok v) := by
  cases h : dec b <;> simp [value, h, Facts.fileUnchangedWhenEqual, Facts.fileDecodeErrBeforeChecksum]

theorem isNotExist_value (dec : Bytes → Option V) (l : Option Bytes) (r : Read) :
    (value dec l r).2.isNotExist = !found r := by
  cases r with
  | openErr ne sc => cases ne <;> rfl
  | content b =>
    rw [value_content]
    cases dec b with
    | none => rfl
    | some v => dsimp only; split <;> rfl

theorem found_false {r : Read} (h : found r = false) : ∃ sc, r = .openErr true sc := by
  cases r with
  | openErr ne sc =>
    cases ne with
    | false => cases h
    | true => exact ⟨sc, rfl⟩
  | content b => cases h

/-- what `s.lastHMACSHA256` holds after these reads -/
def lastDecoded (dec : Bytes → Option V) (last : Option Bytes) : List Read → Option Bytes
  | [] => last
  | .content b :: rs => lastDecoded dec (if (dec b).isSome then some b else last) rs
  | .openErr _ _ :: rs => lastDecoded dec last rs

theorem value_obs (dec : Bytes → Option V) (last : Option Bytes) (r : Read) :
    (value dec last r).1 = lastDecoded dec last [r] ∧
    reports (classify (value dec last r).2) =
      (match r with
       | .content b =>
         (match dec b with
          | some v => if last = some b then [] else [v]
          | none => [])
       | .openErr _ _ => []) ∧
    errorsReported (classify (value dec last r).2) =
      (match r with
       | .content b => if (dec b).isSome then [] else [.decoder]
       | .openErr ne sc => if sc && ne then [] else [.openE]) := by
  cases r with
  | openErr ne sc => cases sc <;> cases ne <;> exact ⟨rfl, rfl, rfl⟩
  | content b =>
    rw [value_content]
    dsimp only [lastDecoded]
    cases dec b with
    | none => exact ⟨rfl, rfl, rfl⟩
    | some v => by_cases hl : last = some b <;> simp only [hl, if_true, if_false] <;> exact ⟨rfl, rfl, rfl⟩

theorem lastDecoded_cons (dec : Bytes → Option V) (last : Option Bytes) (r : Read) (rs : List Read) :
    lastDecoded dec last (r :: rs) = lastDecoded dec (lastDecoded dec last [r]) rs := by
  cases r <;> rfl

theorem applyWatches_nil (w : List Path) : applyWatches (V := V) w [] = w := rfl

theorem applyWatches_append (w : List Path) (a b : List (Action V)) :
    applyWatches w (a ++ b) = applyWatches (applyWatches w a) b :=
  List.foldl_append

theorem mem_applyWatch_add (w : List Path) (p q : Path) :
    q ∈ applyWatch (V := V) w (.addWatch p true) ↔ q ∈ w ∨ q = p := by
  show (q ∈ if p ∈ w then w else w ++ [p]) ↔ _
  split
  · exact ⟨Or.inl, fun h => h.elim id (· ▸ ‹p ∈ w›)⟩
  · simp

theorem applyWatch_add_failed (w : List Path) (p : Path) : applyWatch (V := V) w (.addWatch p false) = w := rfl

theorem mem_applyWatch_remove (w : List Path) (p q : Path) (ok : Bool) :
    q ∈ applyWatch (V := V) w (.removeWatch p ok) ↔ q ∈ w ∧ q ≠ p := by
  simp [applyWatch]

theorem missingStep_eq (c : Cfg) (wf : Bool) (e : Env) :
    missingStep (V := V) c wf e = (false, if wf then [.removeWatch c.cleaned e.rmFileOk] else []) := by
  cases wf <;> rfl

theorem fileWatchStep_eq (c : Cfg) (wf : Bool) (e : Env) :
    fileWatchStep (V := V) c wf e = (wf || e.addFileOk, if wf then [] else [.addWatch c.cleaned e.addFileOk]) := by
  cases wf <;> rfl

theorem dirWatchStep_eq (own old new : Path) (e : Env) :
    dirWatchStep (V := V) own old new e =
      if old = new then []
      else if e.addDirOk then
        (if old = own then [.addWatch new true] else [.addWatch new true, .removeWatch old e.rmDirOk])
      else [.addWatch new false] := by
  simp [dirWatchStep, Facts.dirWatchSkipWhenEqual, Facts.dirWatchAddBeforeRemove, Facts.dirWatchKeepsOwnDir,
    Facts.dirWatchKeepOldOnAddErr]

theorem missingStep_silent (c : Cfg) (wf : Bool) (e : Env) :
    reports (missingStep (V := V) c wf e).2 = [] ∧ errorsReported (missingStep (V := V) c wf e).2 = [] := by
  rw [missingStep_eq]
  cases wf <;> exact ⟨rfl, rfl⟩

theorem fileWatchStep_silent (c : Cfg) (wf : Bool) (e : Env) :
    reports (fileWatchStep (V := V) c wf e).2 = [] ∧ errorsReported (fileWatchStep (V := V) c wf e).2 = [] := by
  rw [fileWatchStep_eq]
  cases wf <;> exact ⟨rfl, rfl⟩

theorem dirWatchStep_silent (own old new : Path) (e : Env) :
    reports (dirWatchStep (V := V) own old new e) = [] ∧ errorsReported (dirWatchStep (V := V) own old new e) = [] := by
  rw [dirWatchStep_eq]
  repeat' split
  all_goals exact ⟨rfl, rfl⟩

theorem mem_missingStep (c : Cfg) (wf : Bool) (e : Env) (w : List Path) (q : Path) :
    q ∈ applyWatches w (missingStep (V := V) c wf e).2 ↔ q ∈ w ∧ (wf = true → q ≠ c.cleaned) := by
  rw [missingStep_eq]
  cases wf
  · simp [applyWatches]
  · simp [applyWatches, mem_applyWatch_remove]

theorem mem_fileWatchStep (c : Cfg) (wf : Bool) (e : Env) (w : List Path) (q : Path) :
    q ∈ applyWatches w (fileWatchStep (V := V) c wf e).2 ↔
      q ∈ w ∨ (wf = false ∧ e.addFileOk = true ∧ q = c.cleaned) := by
  rw [fileWatchStep_eq]
  cases wf
  · cases e.addFileOk <;> simp [applyWatches, mem_applyWatch_add, applyWatch_add_failed]
  · simp [applyWatches]

theorem mem_dirWatchStep (own old new : Path) (e : Env) (w : List Path) (q : Path) :
    q ∈ applyWatches w (dirWatchStep (V := V) own old new e) ↔
      if old = new ∨ e.addDirOk = false then q ∈ w else (q ∈ w ∨ q = new) ∧ (q = old → old = own) := by
  rw [dirWatchStep_eq]
  by_cases h1 : old = new
  · simp [h1, applyWatches]
  · cases e.addDirOk
    · simp [h1, applyWatches, applyWatch_add_failed]
    · by_cases h2 : old = own
      · subst h2
        simp [h1, applyWatches, mem_applyWatch_add]
      · simp [h1, h2, applyWatches, mem_applyWatch_add, mem_applyWatch_remove]

theorem mem_dirWatchStep_of_mem {own old new : Path} {e : Env} {w : List Path} {q : Path} (hq : q ∈ w)
    (h : q = old → old = own) : q ∈ applyWatches (V := V) w (dirWatchStep own old new e) := by
  refine (mem_dirWatchStep ..).2 ?_
  split
  · exact hq
  · exact ⟨Or.inl hq, h⟩

theorem new_mem_dirWatchStep {own old new : Path} {e : Env} {w : List Path} (h1 : old = new → new ∈ w)
    (h2 : old ≠ new → e.addDirOk = true) : new ∈ applyWatches (V := V) w (dirWatchStep own old new e) := by
  refine (mem_dirWatchStep ..).2 ?_
  by_cases h : old = new
  · simpa [h] using h1 h
  · simp [h, h2 h, Ne.symm h]

theorem run_nil (dec : Bytes → Option V) (c : Cfg) (s : WState) : run dec c s [] = (s, []) := rfl

section
variable (dec : Bytes → Option V) (c : Cfg) (s : WState) (r : IterRead)

theorem iter_missing (h : found r.val = false) :
    iter dec c s r =
      ({ s with watchingFile := false,
                watches := applyWatches s.watches (missingStep (V := V) c s.watchingFile r.env).2 },
       (missingStep c s.watchingFile r.env).2) := by
  obtain ⟨sc, hr⟩ := found_false h
  simp [iter, hr, value, VRes.isNotExist, Facts.watchSkipsMissing, missingStep_eq]

theorem iter_found (h : found r.val = true) :
    iter dec c s r =
      ({ lastSum := (value dec s.lastSum r.val).1,
         watchingFile := (fileWatchStep (V := V) c s.watchingFile r.env).1,
         resolved := r.env.resolved.getD s.resolved,
         watches := applyWatches (applyWatches s.watches (fileWatchStep (V := V) c s.watchingFile r.env).2)
            (dirWatchStep (V := V) (dirOf c.cleaned) (dirOf s.resolved) (dirOf (r.env.resolved.getD s.resolved)) r.env) },
       (fileWatchStep c s.watchingFile r.env).2 ++
          dirWatchStep (dirOf c.cleaned) (dirOf s.resolved) (dirOf (r.env.resolved.getD s.resolved)) r.env ++
          classify (value dec s.lastSum r.val).2) := by
  simp [iter, isNotExist_value, h, applyWatches_append]

theorem iter_obs :
    (iter dec c s r).1.lastSum = lastDecoded dec s.lastSum [r.val] ∧
    reports (iter dec c s r).2 =
      (match r.val with
       | .content b =>
         (match dec b with
          | some v => if s.lastSum = some b then [] else [v]
          | none => [])
       | .openErr _ _ => []) ∧
    errorsReported (iter dec c s r).2 =
      (match r.val with
       | .content b => if (dec b).isSome then [] else [.decoder]
       | .openErr ne _ => if ne then [] else [.openE]) := by
  cases h : found r.val with
  | false =>
    obtain ⟨sc, hr⟩ := found_false h
    rw [iter_missing dec c s r h, (missingStep_silent ..).1, (missingStep_silent ..).2, hr]
    exact ⟨rfl, rfl, rfl⟩
  | true =>
    rw [iter_found dec c s r h]
    simp only [reports_append, errorsReported_append, fileWatchStep_silent, dirWatchStep_silent, value_obs,
      List.nil_append, true_and]
    cases hr : r.val with
    | content b => rfl
    | openErr ne sc =>
      cases ne with
      | false => cases sc <;> rfl
      | true => rw [hr] at h; cases h

theorem iter_idem_state : (iter dec c (iter dec c s r).1 r).1 = (iter dec c s r).1 := by
  cases h : found r.val with
  | false =>
    rw [iter_missing dec c _ r h, iter_missing dec c s r h]
    simp [missingStep_eq, applyWatches]
  | true =>
    have hv : (value dec (value dec s.lastSum r.val).1 r.val).1 = (value dec s.lastSum r.val).1 := by
      simp only [value_obs]
      cases r.val with
      | openErr ne sc => rfl
      | content b => cases h : (dec b).isSome <;> simp [lastDecoded, h]
    have hg : r.env.resolved.getD (r.env.resolved.getD s.resolved) = r.env.resolved.getD s.resolved := by
      cases r.env.resolved <;> rfl
    rw [iter_found dec c _ r h, iter_found dec c s r h]
    simp only [hv, hg, dirWatchStep_eq, if_true, applyWatches_nil, fileWatchStep_eq]
    cases s.watchingFile <;> cases r.env.addFileOk <;> simp [applyWatches, applyWatch_add_failed]

theorem own_dir_step (hcfg : dirOf c.cleaned ≠ c.cleaned) (h : dirOf c.cleaned ∈ s.watches) :
    dirOf c.cleaned ∈ (iter dec c s r).1.watches := by
  cases hf : found r.val with
  | false =>
    rw [iter_missing dec c s r hf]
    exact (mem_missingStep ..).2 ⟨h, fun _ => hcfg⟩
  | true =>
    rw [iter_found dec c s r hf]
    exact mem_dirWatchStep_of_mem ((mem_fileWatchStep ..).2 (Or.inl h)) Eq.symm

theorem rereadAfter_eq :
    rereadAfter c s r =
      (found r.val && decide (dirOf s.resolved ≠ dirOf (r.env.resolved.getD s.resolved)) && r.env.addDirOk) := by
  simp [rereadAfter, newDirWatched, Facts.watchRereadsAfterNewDirWatch, Facts.watchSkipsMissing,
    Facts.dirWatchSkipWhenEqual, Bool.and_assoc]

theorem eventPasses_eq (resolved n : Path) :
    eventPasses c resolved n =
      (n == resolved || (n == c.cleaned || (n == dirOf c.cleaned ||
        (n == joinPath (dirOf c.cleaned) ['.', '.', 'd', 'a', 't', 'a'] ||
          (n == joinPath (dirOf c.cleaned) ['.', '.', 'd', 'i', 'r'] || (n == dirOf resolved || false)))))) := rfl

theorem wake_cons (rs : List IterRead) :
    wake dec c s (r :: rs) =
      if rereadAfter c s r then
        ((wake dec c (iter dec c s r).1 rs).1, (iter dec c s r).2 ++ (wake dec c (iter dec c s r).1 rs).2.1,
          (wake dec c (iter dec c s r).1 rs).2.2)
      else ((iter dec c s r).1, (iter dec c s r).2, rs) := rfl

theorem run_cons (rs : List IterRead) :
    run dec c s (r :: rs) = ((run dec c (iter dec c s r).1 rs).1, (iter dec c s r).2 ++ (run dec c (iter dec c s r).1 rs).2) := rfl

theorem run_append (a b : List IterRead) :
    run dec c s (a ++ b) =
      ((run dec c (run dec c s a).1 b).1, (run dec c s a).2 ++ (run dec c (run dec c s a).1 b).2) := by
  induction a generalizing s with
  | nil => rfl
  | cons x xs ih => simp only [List.cons_append, run_cons, ih, List.append_assoc]

theorem run_single : run dec c s [r] = iter dec c s r := by
  simp [run_cons, run_nil]

theorem run_lastSum (rs : List IterRead) :
    (run dec c s rs).1.lastSum = lastDecoded dec s.lastSum (rs.map (·.val)) := by
  induction rs generalizing s with
  | nil => rfl
  | cons r rs ih =>
    rw [run_cons, ih, (iter_obs ..).1]
    exact (lastDecoded_cons ..).symm

end

end Dials.Watch
