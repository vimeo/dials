/-
Lemmas for Props/C20.lean (source wrappers).  `wrappedCall_*` (regenerated facts F16*) and `step_*` (F18*) state what
the model does for the code as found; if a fact changes they no longer check.  `final_fresh`: the state of a fresh
Blank is a function of its history.
-/
import DialsModel.Model.Wrap

namespace Dials.Wrap

section
variable {α β : Type} [Inhabited α] (p : String) (x : Outcome α) (rest : α → Outcome β)

theorem guard_eq_ok (b : β) : guard (some p) x rest = .ok b ↔ ∃ a, x = .ok a ∧ rest a = .ok b := by
  cases x <;> simp [guard]

theorem guard_eq_err (e : String) :
    guard (some p) x rest = .err e ↔ (∃ c, x = .err c ∧ e = p ++ c) ∨ ∃ a, x = .ok a ∧ rest a = .err e := by
  cases x <;> simp [guard, eq_comm]

end

section
variable {Ty Ty' Val Val' : Type} [Inhabited Ty'] [Inhabited Val'] [Inhabited Val]

section
variable (R : Rules) {p1 p2 p3 : String} (h1 : R.translate = some p1) (h2 : R.inner = some p2)
  (h3 : R.reverse = some p3) (X : Xf Ty Ty' Val Val') (inner : Ty' → Outcome Val') (T : Ty)
include h1 h2 h3

theorem wrappedValue_eq_ok (v : Val) :
    wrappedValue R X inner T = .ok v ↔
      ∃ T' v', X.translate T = .ok T' ∧ inner T' = .ok v' ∧ X.reverse T v' = .ok v := by
  simp [wrappedValue, h1, h2, h3, guard_eq_ok]

theorem wrappedValue_eq_err (e : String) :
    wrappedValue R X inner T = .err e ↔
      (∃ c, X.translate T = .err c ∧ e = p1 ++ c) ∨ ∃ T', X.translate T = .ok T' ∧
        ((∃ c, inner T' = .err c ∧ e = p2 ++ c) ∨ ∃ v', inner T' = .ok v' ∧
          ∃ c, X.reverse T v' = .err c ∧ e = p3 ++ c) := by
  simp [wrappedValue, h1, h2, h3, guard_eq_err]

end

theorem watchOverrides_eq : watchOverrides = Facts.wrapOverrides := by
  simp [watchOverrides, Facts.wrapWatchPassesWrappedArgs]

omit [Inhabited Ty'] [Inhabited Val'] in
theorem wrappedCall_report (X : Xf Ty Ty' Val Val') (T : Ty) (under : Msg Val Val' → Outcome Unit) (b : Bool) (v' : Val') :
    ∃ p, wrappedCall watchOverrides X T under (.report b v') =
      match X.reverse T v' with
      | .ok v => ([.value b v], under (.value b v))
      | .err c => ([], .err (p ++ c))
      | .panic c => ([], .panic c) := by
  cases b <;>
  · simp only [wrappedCall, overrideOf, watchOverrides_eq, Facts.wrapOverrides, reportName]
    cases X.reverse T v' <;> simp

omit [Inhabited Ty'] [Inhabited Val'] in
theorem wrappedCall_fst (X : Xf Ty Ty' Val Val') (T : Ty) (under : Msg Val Val' → Outcome Unit) (c : Call Val') :
    (wrappedCall watchOverrides X T under c).1 = (native X T c).toList := by
  cases c with
  | report b v' =>
    obtain ⟨p, h⟩ := wrappedCall_report X T under b v'
    rw [h, native]
    cases X.reverse T v' <;> rfl
  | done => simp [wrappedCall, overrideOf, watchOverrides_eq, Facts.wrapOverrides, native]
  | reportError e => simp [wrappedCall, overrideOf, watchOverrides_eq, Facts.wrapOverrides, native]

end

theorem step_value (b : Blank) :
    step code b .value =
      match b.inner with
      | some s => (b, [.innerValue s.id], .innerResult s.id s.valueOk)
      | none => (b, [], .zeroValue) := by
  cases b with
  | mk inner wa t => cases inner <;> rfl

theorem step_watch (b : Blank) :
    step code b .watch =
      if b.t then (b, [], .error "blank has already been used") else ({ b with t := true, wa := true }, [], .nil) := by
  simp [step, code, Facts.blankWatchOnce]

theorem step_done (b : Blank) :
    step code b .done = (b, if b.wa && !b.innerIsWatcher then [.doneFwd] else [], .nil) := by
  simp only [step, code, Facts.blankDoneChecksWatcher, Facts.blankDoneChecksNil]
  cases b.innerIsWatcher <;> cases b.wa <;> simp

theorem step_setSource_nil (b : Blank) (rep : Bool) :
    (step code b (.setSource none rep)).1 = b ∧ (step code b (.setSource none rep)).2.1 = [] ∧
      (step code b (.setSource none rep)).2.2 ≠ .nil := by
  simp only [step, code, Facts.blankNilRefused]
  cases b.t <;> simp

theorem step_setSource (b : Blank) (s : Src) (rep : Bool) :
    step code b (.setSource (some s) rep) =
      if b.innerIsWatcher then (b, [], .error "disallowed attempt to replace Watcher Source")
      else if !s.valueOk then (b, [.innerValue s.id], .error "initial call to Value failed")
      else ({ b with inner := some s },
        .innerValue s.id ::
          (if b.wa then .report s.id true :: (if rep && s.watcher then [.innerWatch s.id] else []) else []),
        if !b.wa then .panic "nil WatchArgs"
        else if !rep then .error "failed to propagate change"
        else if s.watcher && !s.watchOk then .error "call to Watch failed"
        else .nil) := by
  have hc : code = ⟨true, true, true, true, some "initial call to Value failed: ", 1, true,
    some "failed to propagate change: ", some "call to Watch failed: ", true, true⟩ := rfl
  simp only [step, hc, setSourceWatch, assignAt]
  cases b.innerIsWatcher <;> cases s.valueOk <;> cases hwa : b.wa <;> cases rep <;> simp [hwa]
  cases s.watcher <;> cases s.watchOk <;> rfl

theorem final_nil (C : BlankCode) (b : Blank) : final C b [] = b := rfl

theorem final_cons (C : BlankCode) (b : Blank) (op : Op) (ops : List Op) :
    final C b (op :: ops) = final C (step C b op).1 ops := rfl

theorem run_cons_snd (C : BlankCode) (b : Blank) (op : Op) (ops : List Op) :
    (run C b (op :: ops)).2 = ((step C b op).2.1, (step C b op).2.2) :: (run C (step C b op).1 ops).2 := rfl

theorem final_append (C : BlankCode) (b : Blank) (xs ys : List Op) :
    final C b (xs ++ ys) = final C (final C b xs) ys := by
  induction xs generalizing b with
  | nil => rfl
  | cons x xs ih => simp only [List.cons_append, final_cons]; exact ih _

theorem run_induction (C : BlankCode) (I : Blank → Prop) (P : Op × List Ev × Ret → Prop)
    (hstep : ∀ b op, I b → I (step C b op).1 ∧ P (op, (step C b op).2)) (b : Blank) (ops : List Op) (h : I b) :
    I (final C b ops) ∧ ∀ x ∈ ops.zip (run C b ops).2, P x := by
  induction ops generalizing b with
  | nil => exact ⟨h, fun x hx => nomatch hx⟩
  | cons op ops ih =>
    obtain ⟨h1, h2⟩ := hstep b op h
    refine ⟨(ih _ h1).1, fun x hx => ?_⟩
    rw [run_cons_snd, List.zip_cons_cons, List.mem_cons] at hx
    exact hx.elim (· ▸ h2) ((ih _ h1).2 x)

theorem candidates_append (xs ys : List Op) : candidates (xs ++ ys) = candidates xs ++ candidates ys := by
  induction xs with
  | nil => rfl
  | cons x xs ih =>
    match x with
    | .setSource (some s) _ => cases h : s.valueOk <;> simp [candidates, h, ih]
    | .setSource none _ | .value | .watch | .done => simpa [candidates] using ih

theorem watched_append (xs ys : List Op) : watched (xs ++ ys) = (watched xs || watched ys) :=
  List.any_append

theorem holder_any_watcher (cs : List Src) (wa t : Bool) :
    ({ inner := holder cs, wa := wa, t := t } : Blank).innerIsWatcher = cs.any (·.watcher) := by
  unfold Blank.innerIsWatcher holder
  cases h : cs.find? (·.watcher) with
  | some w => simpa [List.find?_some h] using ⟨w, List.mem_of_find?_eq_some h, List.find?_some h⟩
  | none =>
    have hn : cs.any (·.watcher) = false := by simpa using h
    cases hl : cs.getLast? with
    | none => simp [hn]
    | some l => simpa [hn] using List.find?_eq_none.1 h l (List.mem_of_getLast? hl)

theorem holder_concat (cs : List Src) (s : Src) :
    holder (cs ++ [s]) = if cs.any (·.watcher) then holder cs else some s := by
  unfold holder
  rw [List.find?_append, List.getLast?_concat]
  cases h : cs.find? (·.watcher) with
  | some w =>
    have : cs.any (·.watcher) = true := List.any_eq_true.2 ⟨w, List.mem_of_find?_eq_some h, List.find?_some h⟩
    simp [this]
  | none =>
    have : cs.any (·.watcher) = false := by simpa using h
    cases hs : s.watcher <;> simp [this, hs]

theorem step_fresh (cs : List Src) (w : Bool) (op : Op) :
    (step code { inner := holder cs, wa := w, t := w } op).1 =
      { inner := holder (cs ++ candidates [op]), wa := w || watched [op], t := w || watched [op] } := by
  match op with
  | .value => rw [step_value]; split <;> simp [candidates, watched, Op.isWatch]
  | .watch => rw [step_watch]; cases w <;> simp [candidates, watched, Op.isWatch]
  | .done => rw [step_done]; simp [candidates, watched, Op.isWatch]
  | .setSource none rep => rw [(step_setSource_nil _ rep).1]; simp [candidates, watched, Op.isWatch]
  | .setSource (some s) rep =>
    rw [step_setSource, holder_any_watcher]
    cases hv : s.valueOk <;> cases hw : cs.any (·.watcher) <;>
      simp [candidates, watched, Op.isWatch, hv, hw, holder_concat]

theorem final_fresh (ops : List Op) :
    final code {} ops = { inner := holder (candidates ops), wa := watched ops, t := watched ops } := by
  rw [← ops.reverse_reverse]
  induction ops.reverse with
  | nil => rfl
  | cons op ops ih =>
    rw [List.reverse_cons, final_append, ih, candidates_append, watched_append]
    exact step_fresh ..

end Dials.Wrap
