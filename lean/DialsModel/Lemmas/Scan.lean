/-
Lemmas about the character-level scanner / quote model (Model/Scan.lean): running the string-literal scanner and the
unquoter over a prefix of their input, and what both make of `quoteChar c` for each of the 128 ASCII characters
(`decide +kernel` over `Fin 128` on the one-step functions).  Lemmas/QuoteItems.lean lifts this to every string.
-/
import DialsModel.Model.Scan

namespace Dials.Parse

/-- the scanner's state after the characters `p` (none: closed or failed inside `p`), with the number of
denoted characters completed -/
def runScan (q : Char) : EscSt → List Char → Option (EscSt × Nat)
  | st, [] => some (st, 0)
  | st, c :: cs =>
    match scanStep q st c with
    | .next st' inc => (runScan q st' cs).map fun r => (r.1, inc + r.2)
    | _ => none

/-- the unquoter's state after the characters `p` and the bytes it emitted -/
def runUnq (q : Char) : UnqSt → List Char → Option (UnqSt × List Char)
  | st, [] => some (st, [])
  | st, c :: cs =>
    match unqStep q st c with
    | .next st' e => (runUnq q st' cs).map fun r => (r.1, e ++ r.2)
    | .err => none

theorem runScan_append (q : Char) (p p2 : List Char) :
    ∀ (st st1 st2 : EscSt) (k1 k2 : Nat), runScan q st p = some (st1, k1) → runScan q st1 p2 = some (st2, k2) →
      runScan q st (p ++ p2) = some (st2, k1 + k2) := by
  induction p with
  | nil => intro st st1 st2 k1 k2 h1 h2; cases h1; simpa using h2
  | cons c cs ih =>
    intro st st1 st2 k1 k2 h1 h2
    cases hs : scanStep q st c <;> simp [runScan, hs] at h1
    obtain ⟨s, k, hr, rfl, rfl⟩ := h1
    simp [runScan, hs, ih _ _ _ _ _ hr h2, Nat.add_assoc]

theorem runUnq_append (q : Char) (p p2 : List Char) :
    ∀ (st st1 st2 : UnqSt) (o1 o2 : List Char), runUnq q st p = some (st1, o1) → runUnq q st1 p2 = some (st2, o2) →
      runUnq q st (p ++ p2) = some (st2, o1 ++ o2) := by
  induction p with
  | nil => intro st st1 st2 o1 o2 h1 h2; cases h1; simpa using h2
  | cons c cs ih =>
    intro st st1 st2 o1 o2 h1 h2
    cases hs : unqStep q st c <;> simp [runUnq, hs] at h1
    obtain ⟨s, o, hr, rfl, rfl⟩ := h1
    simp [runUnq, hs, ih _ _ _ _ _ hr h2]

theorem scanStrBody_run (q : Char) (p : List Char) :
    ∀ (st : EscSt) (n : Nat) (st' : EscSt) (k : Nat) (rest : List Char), runScan q st p = some (st', k) →
      scanStrBody q st n (p ++ rest) = (scanStrBody q st' (n + k) rest).map fun r => (p ++ r.1, r.2) := by
  induction p with
  | nil => intro st n st' k rest h; cases h; simp
  | cons c cs ih =>
    intro st n st' k rest h
    cases hs : scanStep q st c <;> simp [runScan, hs] at h
    obtain ⟨s, k2, hr, rfl, rfl⟩ := h
    simp [scanStrBody, hs, ih _ _ _ _ _ hr, Nat.add_assoc, Function.comp_def]

theorem Unq.app_app (a b : List Char) (u : Unq) : (u.app b).app a = u.app (a ++ b) := by
  cases u <;> simp [Unq.app]

theorem Unq.app_nil (u : Unq) : u.app [] = u := by cases u <;> rfl

theorem unqBody_append (q : Char) (p rest : List Char) :
    ∀ (st st' : UnqSt) (out : List Char), runUnq q st p = some (st', out) →
      unqBody q st (p ++ rest) = (unqBody q st' rest).app out := by
  induction p with
  | nil => intro st st' out h; cases h; simp [Unq.app_nil]
  | cons d ds ih =>
    intro st st' out h
    cases hs : unqStep q st d <;> simp [runUnq, hs] at h
    obtain ⟨s, o, hr, rfl, rfl⟩ := h
    simp [unqBody, hs, ih _ _ _ hr, Unq.app_app]

theorem unqBody_run (q : Char) (p : List Char) :
    ∀ (st st' : UnqSt) (out : List Char) (c : Char) (rest : List Char), runUnq q st p = some (st', out) →
      unqBody q st (p ++ c :: rest) = (unqBody q st' (c :: rest)).app out :=
  fun st st' out c rest => unqBody_append q p (c :: rest) st st' out

/-- over `p` both machines go from the normal state back to the normal state: the scanner counts `n` denoted
characters, the unquoter emits the bytes `out` -/
def Passes (p : List Char) (n : Nat) (out : List Char) : Prop :=
  runScan '"' .normal p = some (.normal, n) ∧ runUnq '"' .normal p = some (.normal, out)

theorem Passes.append {p p2 : List Char} {n n2 : Nat} {o o2 : List Char} (h : Passes p n o) (h2 : Passes p2 n2 o2) :
    Passes (p ++ p2) (n + n2) (o ++ o2) :=
  ⟨runScan_append _ _ _ _ _ _ _ _ h.1 h2.1, runUnq_append _ _ _ _ _ _ _ _ h.2 h2.2⟩

theorem Passes.flatMap {α} (f g : α → List Char) (l : List α) (h : ∀ x ∈ l, ∃ n, Passes (f x) n (g x)) :
    ∃ n, Passes (l.flatMap f) n (l.flatMap g) := by
  induction l with
  | nil => exact ⟨0, rfl, rfl⟩
  | cons x xs ih =>
    obtain ⟨n, hx⟩ := h x (by simp)
    obtain ⟨n2, hxs⟩ := ih fun y hy => h y (by simp [hy])
    exact ⟨n + n2, by simpa using hx.append hxs⟩

theorem identRune_quote (m : Bool) : identRune m '"' = false := by cases m <;> decide
theorem identRune_comma (m : Bool) : identRune m ',' = false := by cases m <;> decide
theorem identRune_colon_map : identRune true ':' = false := by decide

/-- a text that passes, between double quotes and followed by anything, is ONE string token: the scanner stops at the
closing quote and strconv.Unquote returns the emitted bytes -/
theorem scanTok_passes (m : Bool) {p : List Char} {n : Nat} {out : List Char} (h : Passes p n out) (rest : List Char) :
    scanTok m '"' (p ++ '"' :: rest) = .tok (.str (some out)) rest := by
  have h1 : scanStrBody '"' .normal 0 (p ++ '"' :: rest) = some (p, 0 + n, rest) := by
    rw [scanStrBody_run _ _ _ _ _ _ _ h.1]; simp [scanStrBody, scanStep]
  have h2 : unqBody '"' .normal p = .ok out := by
    simpa [unqBody, Unq.app] using unqBody_append '"' p [] _ _ _ h.2
  simp [scanTok, identRune_quote, h1, h2]

theorem quoteChar_scan_table :
    ∀ k : Fin 128, runScan '"' .normal (quoteChar (Char.ofNat k.val)) = some (.normal, 1) := by
  decide +kernel

theorem quoteChar_unq_table :
    ∀ k : Fin 128, runUnq '"' .normal (quoteChar (Char.ofNat k.val)) = some (.normal, [Char.ofNat k.val]) := by
  decide +kernel

theorem quoteChar_noNUL_table : ∀ k : Fin 128, (quoteChar (Char.ofNat k.val)).contains NUL = false := by
  decide +kernel

theorem ascii_is_table (c : Char) (h : isAscii c = true) : ∃ k : Fin 128, c = Char.ofNat k.val := by
  have h' : c.toNat < 128 := by simpa [isAscii] using h
  exact ⟨⟨c.toNat, h'⟩, by simp [Char.ofNat_toNat]⟩

theorem quoteChar_passes (c : Char) (h : isAscii c = true) : Passes (quoteChar c) 1 [c] := by
  obtain ⟨k, rfl⟩ := ascii_is_table c h
  exact ⟨quoteChar_scan_table k, quoteChar_unq_table k⟩

theorem quoteChar_noNUL (c : Char) (h : isAscii c = true) : NUL ∉ quoteChar c := by
  obtain ⟨k, rfl⟩ := ascii_is_table c h
  simpa using quoteChar_noNUL_table k

end Dials.Parse
