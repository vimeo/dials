/-
Nothing panics, for C16: the parsers, the case conversion's fuel, the manglers' `mangle` functions and `translate`.

`NoPanic o`: the outcome is `.ok` or `.err`, never `.panic`; `Sat Q o` adds a postcondition `Q` on the `.ok` value.
Also here: the pointwise list relation `All2` and the closure of `Sat` under `mapM'`.
-/
import DialsModel.Model.ParseString
import DialsModel.Model.Sources
import DialsModel.Model.TfSpec
import DialsModel.Model.CaseConv

namespace Dials.Total
open Dials Dials.Parse Dials.Tf Dials.CaseConv

def NoPanic {α : Type} (o : Outcome α) : Prop := ∀ c, o ≠ .panic c

theorem noPanic_ok {α : Type} (a : α) : NoPanic (Outcome.ok a) := by intro c h; cases h
theorem noPanic_err {α : Type} (e : String) : NoPanic (Outcome.err e : Outcome α) := by intro c h; cases h

theorem noPanic_of_eq_ok {α : Type} {o : Outcome α} {a : α} (h : o = .ok a) : NoPanic o := by
  subst h; exact noPanic_ok a

theorem noPanic_of_eq_err {α : Type} {o : Outcome α} {e : String} (h : o = .err e) : NoPanic o := by
  subst h; exact noPanic_err e

theorem noPanic_bind {α β : Type} {x : Outcome α} {f : α → Outcome β}
    (hx : NoPanic x) (hf : ∀ a, NoPanic (f a)) : NoPanic (x.bind f) := by
  cases x with
  | ok a => exact hf a
  | err c => exact noPanic_err c
  | panic c => exact absurd rfl (hx c)

theorem noPanic_match {α β : Type} {x : Outcome α} {f : α → Outcome β}
    (hx : NoPanic x) (hf : ∀ a, NoPanic (f a)) :
    NoPanic (match x with | .ok a => f a | .err c => .err c | .panic c => .panic c) := by
  cases x with
  | ok a => exact hf a
  | err c => exact noPanic_err c
  | panic c => exact absurd rfl (hx c)

theorem noPanic_cases {α : Type} {o : Outcome α} (h : NoPanic o) :
    (∃ a, o = .ok a) ∨ (∃ e, o = .err e) := by
  cases o with
  | ok a => exact .inl ⟨a, rfl⟩
  | err c => exact .inr ⟨c, rfl⟩
  | panic c => exact absurd rfl (h c)

def Sat {α : Type} (Q : α → Prop) : Outcome α → Prop
  | .ok a => Q a
  | .err _ => True
  | .panic _ => False

theorem Sat.noPanic {α : Type} {Q : α → Prop} {o : Outcome α} (h : Sat Q o) : NoPanic o := by
  intro c hc
  rw [hc] at h
  exact h

theorem Sat.of_ok {α : Type} {Q : α → Prop} {o : Outcome α} {a : α} (h : Sat Q o) (ha : o = .ok a) : Q a := by
  rw [ha] at h
  exact h

theorem NoPanic.sat {α : Type} {Q : α → Prop} {o : Outcome α} (h : NoPanic o) (hq : ∀ a, o = .ok a → Q a) :
    Sat Q o := by
  cases o with
  | ok a => exact hq a rfl
  | err c => trivial
  | panic c => exact h c rfl

theorem Sat.mono {α : Type} {P Q : α → Prop} {o : Outcome α} (h : Sat P o) (hpq : ∀ a, P a → Q a) : Sat Q o :=
  h.noPanic.sat fun _ ha => hpq _ (h.of_ok ha)

theorem ok_bind {α β : Type} (a : α) (f : α → Outcome β) : (Outcome.ok a).bind f = f a := rfl

theorem Sat.bind {α β : Type} {P : α → Prop} {Q : β → Prop} {x : Outcome α} {f : α → Outcome β}
    (hx : Sat P x) (hf : ∀ a, P a → Sat Q (f a)) : Sat Q (x.bind f) := by
  cases x with
  | ok a => exact hf a hx
  | err c => trivial
  | panic c => exact hx

theorem mapM'_cons {α β : Type} (f : α → Outcome β) (a : α) (as : List α) :
    mapM' f (a :: as) = (f a).bind fun b => (mapM' f as).bind fun bs => .ok (b :: bs) := by
  rw [mapM']
  cases f a with
  | ok b => cases mapM' f as <;> rfl
  | err c => rfl
  | panic c => rfl

def All2 {α β : Type} (R : α → β → Prop) : List α → List β → Prop
  | [], [] => True
  | a :: as, b :: bs => R a b ∧ All2 R as bs
  | _, _ => False

theorem sat_mapM' {α β : Type} {f : α → Outcome β} {R : α → β → Prop} :
    ∀ {xs : List α}, (∀ x ∈ xs, Sat (R x) (f x)) → Sat (All2 R xs) (mapM' f xs)
  | [], _ => trivial
  | x :: xs, h => by
    rw [mapM'_cons]
    exact (h x List.mem_cons_self).bind fun _ hb =>
      (sat_mapM' fun y hy => h y (List.mem_cons_of_mem _ hy)).bind fun _ hbs => ⟨hb, hbs⟩

theorem mapM'_noPanic {α β : Type} (f : α → Outcome β) (xs : List α) (h : ∀ x ∈ xs, NoPanic (f x)) :
    NoPanic (mapM' f xs) :=
  (sat_mapM' (R := fun _ _ => True) fun x hx => (h x hx).sat fun _ _ => trivial).noPanic

theorem All2_nil_left {α β : Type} {R : α → β → Prop} : ∀ {bs : List β}, All2 R [] bs → bs = []
  | [], _ => rfl
  | _ :: _, h => h.elim

theorem All2_cons_left {α β : Type} {R : α → β → Prop} {a : α} {as : List α} :
    ∀ {bs : List β}, All2 R (a :: as) bs → ∃ b bs', bs = b :: bs' ∧ R a b ∧ All2 R as bs'
  | [], h => h.elim
  | b :: bs, h => ⟨b, bs, rfl, h⟩

theorem All2_length {α β : Type} {R : α → β → Prop} : ∀ {as : List α} {bs : List β},
    All2 R as bs → as.length = bs.length
  | [], [], _ => rfl
  | _ :: _, _ :: _, h => congrArg Nat.succ (All2_length h.2)
  | [], _ :: _, h => h.elim
  | _ :: _, [], h => h.elim

theorem All2_append_inv {α β : Type} {R : α → β → Prop} : ∀ {a1 a2 : List α} {bs : List β},
    All2 R (a1 ++ a2) bs → ∃ b1 b2, bs = b1 ++ b2 ∧ All2 R a1 b1 ∧ All2 R a2 b2
  | [], _, bs, h => ⟨[], bs, rfl, trivial, h⟩
  | _ :: _, _, [], h => h.elim
  | _ :: _, _, b :: _, h =>
    have ⟨b1, b2, e, h1, h2⟩ := All2_append_inv h.2
    ⟨b :: b1, b2, congrArg _ e, ⟨h.1, h1⟩, h2⟩

theorem All2_append {α β : Type} {R : α → β → Prop} : ∀ {a1 a2 : List α} {b1 b2 : List β},
    All2 R a1 b1 → All2 R a2 b2 → All2 R (a1 ++ a2) (b1 ++ b2)
  | [], _, [], _, _, h2 => h2
  | _ :: _, _, _ :: _, _, h1, h2 => ⟨h1.1, All2_append h1.2 h2⟩
  | [], _, _ :: _, _, h1, _ => h1.elim
  | _ :: _, _, [], _, h1, _ => h1.elim

theorem All2_mono {α β : Type} {R R' : α → β → Prop} : ∀ {as : List α} {bs : List β},
    (∀ a ∈ as, ∀ b, R a b → R' a b) → All2 R as bs → All2 R' as bs
  | [], [], _, _ => trivial
  | a :: _, b :: _, hm, h =>
    ⟨hm a List.mem_cons_self b h.1, All2_mono (fun x hx => hm x (List.mem_cons_of_mem _ hx)) h.2⟩
  | [], _ :: _, _, h => h.elim
  | _ :: _, [], _, h => h.elim

theorem All2_map_left {α β γ : Type} {R : γ → β → Prop} (g : α → γ) : ∀ {as : List α} {bs : List β},
    All2 R (as.map g) bs ↔ All2 (fun a b => R (g a) b) as bs
  | [], [] => Iff.rfl
  | [], _ :: _ => Iff.rfl
  | _ :: _, [] => Iff.rfl
  | _ :: _, _ :: _ => and_congr_right' (All2_map_left g)

theorem noPanic_of_isPanic {α : Type} {o : Outcome α} (h : o.isPanic = false) : NoPanic o := by
  intro c hc
  rw [hc] at h
  cases h

theorem parseNumber_noPanic (k : IntKind) (s : Parse.Str) : NoPanic (parseNumber k s) := by
  unfold parseNumber
  repeat' split
  all_goals exact noPanic_of_isPanic rfl

theorem parseIntSlice_noPanic (k : IntKind) (s : Parse.Str) : NoPanic (parseIntSlice k s) := by
  unfold parseIntSlice
  split
  · exact noPanic_ok _
  · refine List.foldrRecOn (motive := NoPanic) _ _ (noPanic_ok _) fun acc hacc p _ => ?_
    split
    · simp only
      repeat' split
      all_goals exact noPanic_of_isPanic rfl
    · exact hacc

theorem splitSlice_noPanic (toks : List Tok) (inValue : Bool) (acc : List S) :
    NoPanic (splitSlice toks inValue acc) := by
  induction toks generalizing inValue acc with
  | nil => exact noPanic_ok _
  | cons t ts ih =>
    unfold splitSlice
    split
    · exact noPanic_err _
    · split
      · exact ih _ _
      · exact noPanic_err _
    · split
      · exact ih _ _
      · exact noPanic_err _
    · exact ih _ _
    · exact noPanic_ok _
    · exact noPanic_err _
    · exact noPanic_err _

theorem splitSet_noPanic (toks : List Tok) (inValue : Bool) (acc : List S) :
    NoPanic (splitSet toks inValue acc) := by
  induction toks generalizing inValue acc with
  | nil => exact noPanic_ok _
  | cons t ts ih =>
    unfold splitSet
    split
    · exact noPanic_err _
    · split
      · split
        · exact noPanic_err _
        · exact ih _ _
      · exact noPanic_err _
    · split
      · split
        · exact noPanic_err _
        · exact ih _ _
      · exact noPanic_err _
    · exact ih _ _
    · exact noPanic_ok _
    · exact noPanic_err _
    · exact noPanic_err _

theorem splitMapWith_noPanic (add : List (S × S) → S → S → Outcome (List (S × S)))
    (hadd : ∀ acc k v, NoPanic (add acc k v)) (toks : List Tok) (st : MapSt) :
    NoPanic (splitMapWith add toks st) := by
  induction toks generalizing st with
  | nil => exact noPanic_ok _
  | cons t ts ih =>
    unfold splitMapWith
    simp only
    split
    · exact noPanic_err _
    · split
      · exact ih _
      · split
        · exact ih _
        · exact noPanic_err _
    · split
      · exact ih _
      · split
        · exact ih _
        · exact noPanic_err _
    · split
      · split
        · exact ih _
        · exact noPanic_err _
        · next c h => exact absurd h (hadd _ _ _ c)
      · exact ih _
    · split
      · exact noPanic_err _
      · exact ih _
    · split
      · exact hadd _ _ _
      · exact noPanic_ok _
    · exact noPanic_err _
    · exact ih _

theorem stringSlice_noPanic (e : Bool) (toks : List Tok) : NoPanic (stringSlice e toks) := by
  unfold stringSlice
  split
  · exact noPanic_ok _
  · exact splitSlice_noPanic _ _ _

theorem stringSet_noPanic (e : Bool) (toks : List Tok) : NoPanic (stringSet e toks) := by
  unfold stringSet
  split
  · exact noPanic_ok _
  · exact splitSet_noPanic _ _ _

theorem addUnique_noPanic (acc : List (S × S)) (k v : S) : NoPanic (addUnique acc k v) := by
  unfold addUnique
  split <;> exact noPanic_of_isPanic rfl

theorem mapStringString_noPanic (toks : List Tok) : NoPanic (mapStringString toks) :=
  splitMapWith_noPanic _ addUnique_noPanic _ _

theorem mapStringStringSlice_noPanic (toks : List Tok) : NoPanic (mapStringStringSlice toks) :=
  splitMapWith_noPanic _ (fun _ _ _ => noPanic_ok _) _ _

/-- the postcondition is what makes the `Elem()` that parse.String's callers apply to a scalar's result safe -/
theorem parseScalar_sat (s : String) (t : Ty) : Sat (fun v => ∃ w, v = .ptr w) (parseScalar s t) := by
  unfold parseScalar
  split
  · exact ⟨_, rfl⟩
  · split
    · exact ⟨_, rfl⟩
    · trivial
  · split
    · trivial
    · split
      · exact ⟨_, rfl⟩
      · trivial
      · next c h => exact parseNumber_noPanic _ _ c h
  · exact ⟨_, rfl⟩
  · exact ⟨_, rfl⟩
  · split
    · exact ⟨_, rfl⟩
    · trivial
    · next c h => exact parseNumber_noPanic _ _ c h
  · trivial

theorem parseScalar_deref_noPanic (s : String) (t : Ty) : NoPanic ((parseScalar s t).bind derefVal) :=
  ((parseScalar_sat s t).bind (Q := fun _ => True) fun _ ⟨_, hw⟩ => hw ▸ trivial).noPanic

theorem parseString_noPanic (toks : TokTable) (s : String) (t : Ty) : NoPanic (parseString toks s t) := by
  unfold parseString
  split
  · split
    · split
      · exact noPanic_ok _
      · split
        · exact noPanic_ok _
        · exact noPanic_err _
        · next c hc =>
          refine absurd hc (mapM'_noPanic _ _ ?_ c)
          intro it _
          split
          · exact noPanic_err _
          · exact noPanic_err _
          · exact noPanic_err _
          · exact parseScalar_deref_noPanic _ _
    · exact noPanic_err _
    · next c hc => exact absurd hc (stringSlice_noPanic _ _ c)
  · split
    · split
      · exact noPanic_ok _
      · exact noPanic_err _
      · next c hc => exact absurd hc (stringSet_noPanic _ _ c)
    · exact noPanic_err _
  · -- map: the first `split` is on the value type inside the condition
    split
    all_goals
      split
      · split
        · exact noPanic_ok _
        · exact noPanic_err _
        · next c hc => exact absurd hc (mapStringStringSlice_noPanic _ c)
      · split
        · simp only
          split
          · refine List.foldlRecOn (motive := NoPanic) _ _ (noPanic_ok _) fun acc hacc p _ => ?_
            split
            · split
              · split
                · exact noPanic_err _
                · split
                  · exact noPanic_ok _
                  · exact noPanic_err _
                  · next c hc => exact absurd hc (parseScalar_deref_noPanic _ _ c)
              · exact noPanic_err _
              · next c hc => exact absurd hc (parseScalar_deref_noPanic _ _ c)
            · exact hacc
          · exact noPanic_err _
          · next c hc =>
            exact absurd hc (splitMapWith_noPanic _ (fun _ _ _ => noPanic_ok _) _ _ c)
        · exact noPanic_err _
  · exact (parseScalar_sat _ _).noPanic

theorem scanOnce_length (inits : List CaseConv.Str) (hne : ([] : CaseConv.Str) ∉ inits) :
    ∀ (s : CaseConv.Str) (w : Words) (f : Bool) (s' : CaseConv.Str) (w' : Words) (f' : Bool),
      scanOnce inits s w f = (s', w', f') →
      s'.length ≤ s.length ∧ (f = false → f' = true → s'.length < s.length) := by
  induction inits with
  | nil =>
    intro s w f s' w' f' h
    simp only [scanOnce, Prod.mk.injEq] at h
    obtain ⟨rfl, rfl, rfl⟩ := h
    exact ⟨Nat.le_refl _, fun h1 h2 => by rw [h1] at h2; cases h2⟩
  | cons i is ih =>
    have hi : i ≠ [] := fun h => hne (h ▸ List.mem_cons_self)
    have hne' : ([] : CaseConv.Str) ∉ is := fun h => hne (List.mem_cons_of_mem _ h)
    intro s w f s' w' f' h
    unfold scanOnce at h
    split at h
    · next hp =>
      have h1 := ih hne' _ _ _ _ _ _ h
      have hle : i.length ≤ s.length := (List.isPrefixOf_iff_prefix.mp hp).length_le
      have hpos : 0 < i.length := List.length_pos_iff.mpr hi
      have hd : (s.drop i.length).length = s.length - i.length := List.length_drop
      rw [hd] at h1
      exact ⟨by omega, fun _ _ => by omega⟩
    · exact ih hne' _ _ _ _ _ _ h

theorem extractLoop_fuel_stable (inits : List CaseConv.Str) (hne : ([] : CaseConv.Str) ∉ inits) :
    ∀ (n m : Nat) (s : CaseConv.Str) (w : Words), s.length < n → s.length < m →
      extractLoop inits n s w = extractLoop inits m s w := by
  intro n
  induction n with
  | zero => intro m s w h; omega
  | succ n ih =>
    intro m s w hn hm
    cases m with
    | zero => omega
    | succ m =>
      simp only [extractLoop]
      rcases hsc : scanOnce inits s w false with ⟨s', w', f'⟩
      cases f' with
      | false => rfl
      | true =>
        have hlen := (scanOnce_length inits hne s w false s' w' true hsc).2 rfl rfl
        exact ih m s' w' (by omega) (by omega)

/-- `s.length + 1` is the fuel `extractInitialismsWith` runs with: a scan that strips anything shortens the text -/
theorem extractInitialisms_fuel (inits : List CaseConv.Str) (hne : ([] : CaseConv.Str) ∉ inits)
    (s : CaseConv.Str) (n : Nat) (hn : s.length + 1 ≤ n) :
    extractLoop inits n s [] = extractInitialismsWith inits s := by
  unfold extractInitialismsWith
  exact extractLoop_fuel_stable inits hne n (s.length + 1) s [] (by omega) (by omega)

def MangleTotal (m : Mangler) : Prop := ∀ h t, NoPanic (m.mangle h t)

theorem flattenGetTag_noPanic (cfg : FlattenCfg) (h : Hdr) (words path : List String) :
    NoPanic (flattenGetTag cfg h words path) := by
  unfold flattenGetTag
  simp only
  split
  · exact noPanic_ok _
  · exact noPanic_err _
  · next c hc =>
    exfalso
    revert hc
    split
    · intro hc; cases hc
    · split
      · intro hc; cases hc
      · split
        · intro hc; cases hc
        · intro hc; cases hc

theorem flattenStruct_noPanic (cfg : FlattenCfg) :
    ∀ (fuel : Nat) (names words path : List String) (fs : List FT),
      NoPanic (flattenStruct cfg fuel names words path fs) := by
  intro fuel
  induction fuel with
  | zero => intro names words path fs; unfold flattenStruct; exact noPanic_err _
  | succ fuel ih =>
    intro names words path fs
    cases fs with
    | nil => unfold flattenStruct; exact noPanic_ok _
    | cons f rest =>
      obtain ⟨nh, nt⟩ := f
      unfold flattenStruct
      simp only
      split
      · exact noPanic_err _
      · next c hc => exact absurd hc (flattenGetTag_noPanic _ _ _ _ c)
      · next tags words' hg =>
        split
        · exact noPanic_ok _
        · exact noPanic_err _
        · next _ _ c hc =>
          exfalso
          revert hc
          split
          · intro hc; exact ih _ _ _ _ c hc
          · intro hc; cases hc
        · exact noPanic_err _
        · next _ _ c hc _ _ => exact absurd hc (ih _ _ _ _ c)

theorem aliasMangler_total (tags : List String) : MangleTotal (aliasMangler tags) := by
  intro h t
  show NoPanic (aliasMangle tags h t)
  unfold aliasMangle
  simp only
  split <;> exact noPanic_of_isPanic rfl

theorem flattenMangler_total (cfg : FlattenCfg) (fuel : Nat) : MangleTotal (flattenMangler cfg fuel) := by
  intro h t
  show NoPanic (flattenMangle cfg fuel h t)
  unfold flattenMangle
  split
  · exact noPanic_err _
  · split
    · exact noPanic_err _
    · next c hc => exact absurd hc (flattenGetTag_noPanic _ _ _ _ c)
    · split
      · exact flattenStruct_noPanic _ _ _ _ _ _
      · exact noPanic_ok _

theorem anonMangler_total : ∀ (fuel : Nat), MangleTotal (anonMangler fuel)
  | 0, _, _ => noPanic_err _
  | fuel + 1, h, t => by
    show NoPanic (anonMangle (fuel + 1) h t)
    unfold anonMangle
    split
    · exact noPanic_ok _
    · split
      · exact anonMangler_total fuel _ _
      · exact noPanic_ok _
      · exact noPanic_ok _

theorem setSliceMangler_total : MangleTotal setSliceMangler := by
  intro h t
  simp only [setSliceMangler]
  split <;> exact noPanic_of_isPanic rfl

theorem tagCopyMangler_total (src new : String) : MangleTotal (tagCopyMangler src new) := by
  intro h t
  simp only [tagCopyMangler]
  repeat' split
  all_goals exact noPanic_of_isPanic rfl

theorem tagReformatMangler_total (tag : String) (dec : List Char → Option (List (List Char)))
    (enc : CaseConv.Scheme) : MangleTotal (tagReformatMangler tag dec enc) := by
  intro h t
  simp only [tagReformatMangler]
  split <;> exact noPanic_of_isPanic rfl

theorem manglerOfSpec_mangleTotal (fuel : Nat) (parse : String → Ty → Outcome Val) (spec : List String)
    (m : Mangler) (h : manglerOfSpec fuel parse spec = some m) : MangleTotal m := by
  unfold manglerOfSpec at h
  split at h
  · cases h; exact aliasMangler_total _
  · simp only [bind, Option.bind_eq_some_iff, Option.some.injEq] at h
    obtain ⟨_, _, _, _, rfl⟩ := h
    exact flattenMangler_total _ _
  · simp only [bind, Option.bind_eq_some_iff, Option.some.injEq] at h
    obtain ⟨_, _, _, _, rfl⟩ := h
    exact tagReformatMangler_total _ _ _
  · cases h; exact tagCopyMangler_total _ _
  · cases h; exact fun _ _ => noPanic_ok _
  · cases h; exact setSliceMangler_total
  · cases h; exact anonMangler_total _
  · cases h; exact fun _ _ => noPanic_ok _
  · cases h; exact fun _ _ => noPanic_ok _
  · cases h

theorem chainOfSpecs_mangleTotal (fuel : Nat) (parse : String → Ty → Outcome Val)
    (specs : List (List String)) (ms : List Mangler) (h : chainOfSpecs fuel parse specs = some ms) :
    ∀ m ∈ ms, MangleTotal m := by
  unfold chainOfSpecs at h
  induction specs generalizing ms with
  | nil => cases h; nofun
  | cons sp specs ih =>
    simp only [List.mapM_cons, bind, Option.bind_eq_some_iff, pure, Option.some.injEq] at h
    obtain ⟨m1, h1, ms', h2, rfl⟩ := h
    exact List.forall_mem_cons.2 ⟨manglerOfSpec_mangleTotal fuel parse sp _ h1, ih ms' h2⟩

theorem mangleLayer_recurseType_noPanic (m : Mangler) (hm : MangleTotal m) :
    ∀ (fuel : Nat), (∀ (fs : List FT), NoPanic (mangleLayer fuel m fs)) ∧
      (∀ (f : FT), NoPanic (recurseType fuel m f)) := by
  intro fuel
  induction fuel with
  | zero =>
    constructor
    · intro fs; unfold mangleLayer; exact noPanic_err _
    · intro f; unfold recurseType; exact noPanic_err _
  | succ fuel ih =>
    obtain ⟨ihL, ihR⟩ := ih
    constructor
    · intro fs
      unfold mangleLayer
      split
      · exact noPanic_ok _
      · exact noPanic_err _
      · next c hc =>
        refine absurd hc (mapM'_noPanic _ _ ?_ c)
        intro f _
        split
        · exact mapM'_noPanic _ _ (fun x _ => ihR x)
        · exact noPanic_err _
        · next c' hc' => exact absurd hc' (hm _ _ c')
    · intro f
      obtain ⟨h, t⟩ := f
      unfold recurseType
      split
      · exact noPanic_ok _
      · split
        · exact noPanic_ok _
        · split
          · exact noPanic_ok _
          · exact noPanic_err _
          · next c hc => exact absurd hc (ihL _ c)

theorem mangleLayer_noPanic (m : Mangler) (hm : MangleTotal m) :
    ∀ (fuel : Nat) (fs : List FT), NoPanic (mangleLayer fuel m fs) :=
  fun fuel => (mangleLayer_recurseType_noPanic m hm fuel).1

theorem recurseType_noPanic (m : Mangler) (hm : MangleTotal m) :
    ∀ (fuel : Nat) (f : FT), NoPanic (recurseType fuel m f) :=
  fun fuel => (mangleLayer_recurseType_noPanic m hm fuel).2

theorem translate_noPanic (fuel : Nat) :
    ∀ (ms : List Mangler), (∀ m ∈ ms, MangleTotal m) → ∀ (fs : List FT), NoPanic (translate fuel ms fs) := by
  intro ms
  induction ms with
  | nil => intro _ fs; unfold translate; exact noPanic_ok _
  | cons m ms ih =>
    intro h fs
    unfold translate
    split
    · exact ih (fun m' hm' => h m' (List.mem_cons_of_mem _ hm')) _
    · exact noPanic_err _
    · next c hc => exact absurd hc (mangleLayer_noPanic m (h m List.mem_cons_self) fuel fs c)

theorem layers_noPanic (fuel : Nat) :
    ∀ (ms : List Mangler), (∀ m ∈ ms, MangleTotal m) → ∀ (fs : List FT), NoPanic (layers fuel ms fs) := by
  intro ms
  induction ms with
  | nil => intro _ fs; unfold layers; exact noPanic_ok _
  | cons m ms ih =>
    intro h fs
    unfold layers
    split
    · split
      · exact noPanic_ok _
      · exact noPanic_err _
      · next c hc => exact absurd hc (ih (fun m' hm' => h m' (List.mem_cons_of_mem _ hm')) _ c)
    · exact noPanic_err _
    · next c hc => exact absurd hc (mangleLayer_noPanic m (h m List.mem_cons_self) fuel fs c)

theorem envNames_noPanic (fuel : Nat) (ms : List Mangler) (h : ∀ m ∈ ms, MangleTotal m) (pfx : String)
    (fs : List FT) : NoPanic (envNames fuel ms pfx fs) := by
  unfold envNames
  split
  · exact noPanic_err _
  · next c hc => exact absurd hc (translate_noPanic fuel ms h fs c)
  · exact noPanic_ok _

end Dials.Total
