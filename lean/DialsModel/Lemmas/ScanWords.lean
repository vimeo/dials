/-
Bare words (what people type: `--tags=a,b,c`, `HOSTS=db1:5432,db2:5432`, `LIMITS=cpu:2,mem:4`) next to quoted strings:
texts made of words of identifier characters, quoted strings, commas and - in map mode - colons are scanned into
exactly the corresponding tokens.  A word may hold spaces (the custom IsIdentRune accepts the space; only LEADING white
space is skipped by the scanner), so "a b, c" is the two words "a b" and "c".

The printed forms of the flag helpers, `joinComma` and `joinPairs` are all comma-separated lists (`sepBy`) of such
pieces, and so are the canonical token streams: `scanText_sepBy` is the one scanning theorem behind them.
-/
import DialsModel.Lemmas.QuoteItems
import DialsModel.Lemmas.Parse

namespace Dials.Parse

inductive WPiece where
  | word (w : S)
  | str (z : S)
  | qstr (is : List QItem)          -- any byte string, quoted item by item (Model/QuoteItems.lean)
  | comma
  | colon
deriving Repr, DecidableEq

def WPiece.tok : WPiece → Tok
  | .word w => .word w
  | .str z => .str (some z)
  | .qstr is => .str (some (itemsBytes is))
  | .comma => .comma
  | .colon => .colon

def WPiece.text : WPiece → List Char
  | .word w => w
  | .str z => quote z
  | .qstr is => quoteItems is
  | .comma => [',']
  | .colon => [':']

def WPiece.isWord : WPiece → Bool
  | .word _ => true
  | _ => false

/-- a bare word: non-empty, identifier characters only (so no comma, quote, backslash, NUL, control character - and no
colon in map mode), not starting with a space -/
def BareWord (m : Bool) (w : S) : Prop := w ≠ [] ∧ (∀ c ∈ w, identRune m c = true) ∧ w.head? ≠ some ' '

def WPiece.ok (m : Bool) : WPiece → Prop
  | .word w => BareWord m w
  | .str z => z.all isAscii = true
  | .qstr is => ∀ i ∈ is, i.ok
  | .comma => True
  | .colon => m = true

/-- two words never stand next to each other (they would be one word) -/
def Renderable (m : Bool) : List WPiece → Prop
  | [] => True
  | [p] => p.ok m
  | p :: q :: r => p.ok m ∧ (p.isWord = true → q.isWord = false) ∧ Renderable m (q :: r)

def wrender (ps : List WPiece) : List Char := ps.flatMap WPiece.text

theorem renderable_cons (m : Bool) (p : WPiece) (ps : List WPiece) :
    Renderable m (p :: ps) ↔ p.ok m ∧ (p.isWord = true → ∀ q, ps.head? = some q → q.isWord = false) ∧ Renderable m ps := by
  cases ps <;> simp [Renderable]

theorem Renderable.ok {m : Bool} : ∀ {ps : List WPiece}, Renderable m ps → ∀ p ∈ ps, p.ok m
  | [], _, _, hp => nomatch hp
  | q :: qs, h, p, hp => by
    obtain ⟨hq, _, hqs⟩ := (renderable_cons m q qs).1 h
    rcases List.mem_cons.1 hp with rfl | hp
    · exact hq
    · exact hqs.ok p hp

theorem str_as_qstr (z : S) (h : z.all isAscii = true) :
    ∃ is, (∀ i ∈ is, i.ok) ∧ quoteItems is = quote z ∧ itemsBytes is = z :=
  ⟨z.map .ascii, ascii_items_ok z h, quoteItems_ascii z⟩

theorem identRune_table :
    ∀ k : Fin 128, identRune false (Char.ofNat k.val) = decide (32 ≤ k.val ∧ k.val ≤ 126 ∧ k.val ∉ [92, 44, 34, 39, 96]) ∧
      identRune true (Char.ofNat k.val) = decide (32 ≤ k.val ∧ k.val ≤ 126 ∧ k.val ∉ [92, 44, 34, 39, 96, 58]) := by
  decide +kernel

theorem identRune_not_ws (m : Bool) (c : Char) (h : identRune m c = true) (hs : c ≠ ' ') : isWs c = false := by
  by_cases h1 : c = '\t'
  · subst h1; cases m <;> simp_all (config := { decide := true })
  by_cases h2 : c = '\n'
  · subst h2; cases m <;> simp_all (config := { decide := true })
  by_cases h3 : c = '\r'
  · subst h3; cases m <;> simp_all (config := { decide := true })
  simp [isWs, h1, h2, h3, hs]

theorem spanIdent_word (m : Bool) (w rest : List Char) (hw : ∀ c ∈ w, identRune m c = true)
    (hr : ∀ c, rest.head? = some c → identRune m c = false) : spanIdent m (w ++ rest) = (w, rest) := by
  induction w with
  | nil =>
    cases rest with
    | nil => rfl
    | cons c cs => simp [spanIdent, hr c rfl]
  | cons c cs ih => simp [spanIdent, hw c (by simp), ih fun x hx => hw x (by simp [hx])]

theorem wpiece_noNUL (m : Bool) (p : WPiece) (h : p.ok m) : NUL ∉ p.text := by
  cases p with
  | word w => exact fun hn => absurd (h.2.1 NUL hn) (by cases m <;> decide)
  | str z =>
    obtain ⟨is, hok, hq, _⟩ := str_as_qstr z h
    show NUL ∉ quote z
    exact hq ▸ quoteItems_noNUL is hok
  | qstr is => exact quoteItems_noNUL is h
  | comma => decide
  | colon => decide

/-- the first character of a piece that is not a word is no identifier character (in the mode the piece is legal in) -/
theorem nonword_head (m : Bool) (q : WPiece) (hq : q.ok m) (hw : q.isWord = false) (tail : List Char) :
    ∀ c, (q.text ++ tail).head? = some c → identRune m c = false := by
  intro c hc
  cases q with
  | word w => simp [WPiece.isWord] at hw
  | str z => simp [WPiece.text, quote] at hc; subst hc; exact identRune_quote m
  | qstr is => simp [WPiece.text, quoteItems] at hc; subst hc; exact identRune_quote m
  | comma => simp [WPiece.text] at hc; subst hc; exact identRune_comma m
  | colon =>
    have hm : m = true := hq
    subst hm
    simp [WPiece.text] at hc; subst hc; exact identRune_colon_map

/-- one piece in front of any continuation - which does not go on with an identifier character if the piece is a word -
is scanned as exactly its token -/
theorem scanTok_wpiece (m : Bool) (p : WPiece) (h : p.ok m) (rest : List Char)
    (hr : p.isWord = true → ∀ c, rest.head? = some c → identRune m c = false) :
    ∃ c cs, p.text = c :: cs ∧ isWs c = false ∧ scanTok m c (cs ++ rest) = .tok p.tok rest := by
  cases p with
  | word w =>
    obtain ⟨hne, hid, hsp⟩ := h
    cases w with
    | nil => exact absurd rfl hne
    | cons c w' =>
      have hc : identRune m c = true := hid c (by simp)
      have hcs : c ≠ ' ' := by intro e; subst e; simp at hsp
      refine ⟨c, w', rfl, identRune_not_ws m c hc hcs, ?_⟩
      have := spanIdent_word m w' rest (fun x hx => hid x (by simp [hx])) (hr rfl)
      simp [scanTok, hc, this, WPiece.tok]
  | str z =>
    obtain ⟨is, hok, hq, rfl⟩ := str_as_qstr z h
    obtain ⟨cs, hcs, htok⟩ := scanTok_quoteItems m is hok rest
    exact ⟨'"', cs, hq.symm.trans hcs, by decide, htok⟩
  | qstr is =>
    obtain ⟨cs, hcs, htok⟩ := scanTok_quoteItems m is h rest
    exact ⟨'"', cs, hcs, by decide, htok⟩
  | comma => exact ⟨',', [], rfl, by decide, by simp [scanTok, identRune_comma, WPiece.tok]⟩
  | colon =>
    have hm : m = true := h
    subst hm
    exact ⟨':', [], rfl, by decide, by simp [scanTok, identRune_colon_map, WPiece.tok]⟩

/-- one round of the token loop: a token that is scanned from a text without NUL is handed on -/
theorem scanAllF_tok (m : Bool) (f : Nat) (c : Char) (cs rest : List Char) (t : Tok) (hws : isWs c = false)
    (ht : scanTok m c cs = .tok t rest) (hn : NUL ∉ c :: cs) :
    scanAllF m (f + 1) (c :: cs) = (scanAllF m f rest).map (t :: ·) := by
  have : ((c :: cs).take ((c :: cs).length - rest.length + 1)).contains NUL = false := by
    rw [List.contains_eq_mem, decide_eq_false_iff_not]
    exact fun h => hn (List.mem_of_mem_take h)
  simp only [scanAllF, skipWs, hws, Bool.false_eq_true, if_false, ht, this]

theorem scanAllF_wrender (m : Bool) : ∀ ps : List WPiece, Renderable m ps → ∀ fuel, (wrender ps).length < fuel →
    scanAllF m fuel (wrender ps) = some (ps.map WPiece.tok ++ [.eof]) := by
  intro ps
  induction ps with
  | nil =>
    intro _ fuel hf
    cases fuel with
    | zero => simp at hf
    | succ f => rfl
  | cons p ps ih =>
    intro hok fuel hf
    obtain ⟨hp, hadj, hps⟩ := (renderable_cons m p ps).1 hok
    have hrest : p.isWord = true → ∀ c, (wrender ps).head? = some c → identRune m c = false := by
      intro hw
      cases ps with
      | nil => intro c hc; simp [wrender] at hc
      | cons q r => exact nonword_head m q (hps.ok q (by simp)) (hadj hw q rfl) (wrender r)
    cases fuel with
    | zero => simp at hf
    | succ f =>
      obtain ⟨c, cs, hcs, hws, htok⟩ := scanTok_wpiece m p hp (wrender ps) hrest
      have hr : wrender (p :: ps) = c :: (cs ++ wrender ps) := by simp [wrender, hcs]
      have hnn : NUL ∉ wrender (p :: ps) := by
        simpa [wrender, List.mem_flatMap] using fun q hq => wpiece_noNUL m q (hok.ok q hq)
      rw [hr] at hnn hf ⊢
      rw [scanAllF_tok m f c _ _ _ hws htok hnn, ih hps f (by simp at hf; omega)]
      rfl

theorem scanText_wrender (m : Bool) (ps : List WPiece) (h : Renderable m ps) :
    scanText m (wrender ps) = some (ps.map WPiece.tok ++ [.eof]) :=
  scanAllF_wrender m ps h _ (Nat.lt_succ_self _)

/-! ### the printed forms: strings, commas and colons -/

inductive Piece where
  | str (z : S)
  | comma
  | colon
deriving Repr, DecidableEq

def Piece.tok : Piece → Tok
  | .str z => .str (some z)
  | .comma => .comma
  | .colon => .colon

def Piece.text : Piece → List Char
  | .str z => quote z
  | .comma => [',']
  | .colon => [':']

/-- a colon is a token of its own only under splitMap's IsIdentRune -/
def Piece.ok (mapMode : Bool) : Piece → Prop
  | .str z => z.all isAscii = true
  | .comma => True
  | .colon => mapMode = true

def render (ps : List Piece) : List Char := ps.flatMap Piece.text

def Piece.toW : Piece → WPiece
  | .str z => .str z
  | .comma => .comma
  | .colon => .colon

/-- the text the flag helpers print is scanned as the canonical token stream, with any sufficient fuel -/
theorem scanAllF_render (m : Bool) (ps : List Piece) :
    (∀ p ∈ ps, p.ok m) → ∀ fuel, (render ps).length < fuel →
      scanAllF m fuel (render ps) = some (ps.map Piece.tok ++ [.eof]) := by
  intro hok
  have hR : Renderable m (ps.map Piece.toW) := by
    induction ps with
    | nil => trivial
    | cons p ps ih =>
      refine (renderable_cons m _ _).2 ⟨?_, ?_, ih fun q hq => hok q (by simp [hq])⟩
      · have := hok p (by simp)
        cases p <;> exact this
      · intro hw; cases p <;> cases hw
  have htext : (fun p => (Piece.toW p).text) = Piece.text := funext fun p => by cases p <;> rfl
  have htok : (fun p => (Piece.toW p).tok) = Piece.tok := funext fun p => by cases p <;> rfl
  have hr : render ps = wrender (ps.map Piece.toW) := by simp [render, wrender, List.flatMap_map, htext]
  have ht : ps.map Piece.tok = (ps.map Piece.toW).map WPiece.tok := by simp [Function.comp_def, htok]
  rw [hr, ht]
  exact scanAllF_wrender m _ hR

/-! ### comma-separated lists -/

/-- `f x₁ ++ c :: f x₂ ++ c :: … ++ f xₙ` -/
def sepBy {α β} (f : α → List β) (c : β) : List α → List β
  | [] => []
  | x :: xs => f x ++ xs.flatMap fun y => c :: f y

theorem sepBy_cons_cons {α β} (f : α → List β) (c : β) (x y : α) (ys : List α) :
    sepBy f c (x :: y :: ys) = f x ++ c :: sepBy f c (y :: ys) := by
  simp [sepBy]

/-- the shape of the definitions in the models: `[] ↦ e`, `[x] ↦ f x ++ e`, `x :: xs ↦ f x ++ c :: F xs` -/
theorem eq_sepBy {α β} (f : α → List β) (c : β) (F : List α → List β) (e : List β) (h0 : F [] = e)
    (h1 : ∀ x, F [x] = f x ++ e) (h2 : ∀ x y ys, F (x :: y :: ys) = f x ++ c :: F (y :: ys)) :
    ∀ xs, F xs = sepBy f c xs ++ e
  | [] => h0
  | [x] => by simp [h1, sepBy]
  | x :: y :: ys => by rw [h2, eq_sepBy f c F e h0 h1 h2 (y :: ys), sepBy_cons_cons, List.append_assoc]; rfl

theorem eq_sepBy_nil {α β} (f : α → List β) (c : β) (F : List α → List β) (h0 : F [] = [])
    (h1 : ∀ x, F [x] = f x) (h2 : ∀ x y ys, F (x :: y :: ys) = f x ++ c :: F (y :: ys)) (xs : List α) :
    F xs = sepBy f c xs :=
  (eq_sepBy f c F [] h0 (fun x => (h1 x).trans (List.append_nil _).symm) h2 xs).trans (List.append_nil _)

theorem map_sepBy {α β γ} (g : β → γ) (f : α → List β) (c : β) (xs : List α) :
    (sepBy f c xs).map g = sepBy (fun x => (f x).map g) (g c) xs := by
  cases xs <;> simp [sepBy, List.map_flatMap]

theorem sepBy_map {α β γ} (g : γ → α) (f : α → List β) (c : β) (xs : List γ) :
    sepBy f c (xs.map g) = sepBy (fun x => f (g x)) c xs := by
  cases xs <;> simp [sepBy, List.flatMap_map]

theorem wrender_sepBy {α} (f : α → List WPiece) (xs : List α) :
    wrender (sepBy f .comma xs) = sepBy (fun x => wrender (f x)) ',' xs := by
  cases xs <;> simp [sepBy, wrender, List.flatMap_assoc, WPiece.text]

theorem renderable_append_comma (m : Bool) (ps qs : List WPiece) (hp : Renderable m ps) (hq : Renderable m qs) :
    Renderable m (ps ++ .comma :: qs) := by
  induction ps with
  | nil => exact (renderable_cons m _ _).2 ⟨trivial, nofun, hq⟩
  | cons p ps ih =>
    obtain ⟨h1, h2, h3⟩ := (renderable_cons m p ps).1 hp
    refine (renderable_cons m p _).2 ⟨h1, fun hw q hq => ?_, ih h3⟩
    cases ps with
    | nil => cases hq; rfl
    | cons r rs => exact h2 hw q hq

theorem renderable_sepBy {α} (m : Bool) (f : α → List WPiece) (xs : List α) (h : ∀ x ∈ xs, Renderable m (f x)) :
    Renderable m (sepBy f .comma xs) := by
  induction xs with
  | nil => trivial
  | cons x xs ih =>
    cases xs with
    | nil => simpa [sepBy] using h x (by simp)
    | cons y ys =>
      rw [sepBy_cons_cons]
      exact renderable_append_comma m _ _ (h x (by simp)) (ih fun z hz => h z (by simp [hz]))

/-- a comma-separated list of renderable groups of pieces: the text `g x` of each group is scanned as its tokens `t x` -/
theorem scanText_sepBy {α} (m : Bool) (f : α → List WPiece) (g : α → List Char) (t : α → List Tok)
    (hg : ∀ x, wrender (f x) = g x) (ht : ∀ x, (f x).map WPiece.tok = t x) (xs : List α)
    (h : ∀ x ∈ xs, Renderable m (f x)) :
    scanText m (sepBy g ',' xs) = some (sepBy t .comma xs ++ [.eof]) := by
  obtain rfl : (fun x => wrender (f x)) = g := funext hg
  obtain rfl : (fun x => (f x).map WPiece.tok) = t := funext ht
  rw [← wrender_sepBy, show sepBy _ Tok.comma xs = _ from (map_sepBy WPiece.tok f .comma xs).symm]
  exact scanText_wrender m _ (renderable_sepBy m f xs h)

theorem canonSlice_eq : ∀ zs, canonSlice zs = sepBy (fun z => [.str (some z)]) .comma zs ++ [.eof] :=
  eq_sepBy _ _ canonSlice _ rfl (fun _ => rfl) fun _ _ _ => rfl

theorem canonMap_eq : ∀ kvs, canonMap kvs = sepBy (fun p => [.str (some p.1), .colon, .str (some p.2)]) .comma kvs ++ [.eof] :=
  eq_sepBy _ _ canonMap _ rfl (fun _ => rfl) fun _ _ _ => rfl

theorem joinComma_eq : ∀ ws, joinComma ws = sepBy id ',' ws :=
  eq_sepBy_nil _ _ joinComma rfl (fun _ => rfl) fun _ _ _ => rfl

theorem printSlice_eq : ∀ zs, printSlice zs = sepBy quote ',' zs :=
  eq_sepBy_nil _ _ printSlice rfl (fun _ => rfl) fun _ _ _ => rfl

theorem printMap_eq : ∀ kvs, printMap kvs = sepBy (fun p => quote p.1 ++ ':' :: quote p.2) ',' kvs :=
  eq_sepBy_nil _ _ printMap rfl (fun _ => rfl) fun (k, v) _ _ => (List.append_assoc (quote k) (':' :: quote v) _).symm

def joinPairs : List (S × S) → List Char
  | [] => []
  | [(k, v)] => k ++ ':' :: v
  | (k, v) :: rest => k ++ ':' :: (v ++ ',' :: joinPairs rest)

theorem joinPairs_eq : ∀ kvs, joinPairs kvs = sepBy (fun p => p.1 ++ ':' :: p.2) ',' kvs :=
  eq_sepBy_nil _ _ joinPairs rfl (fun _ => rfl) fun (k, v) _ _ => (List.append_assoc k (':' :: v) _).symm

/-! ### the state machines do not care whether a value was quoted -/

def deQuote : Tok → Tok
  | .str (some z) => .word z
  | t => t

theorem splitSlice_deQuote (ts : List Tok) : ∀ (b : Bool) (acc : List S),
    splitSlice (ts.map deQuote) b acc = splitSlice ts b acc := by
  induction ts with
  | nil => intro b acc; rfl
  | cons t ts ih => intro b acc; rcases t with (_ | u) | _ | _ | _ | _ | _ | _ <;> simp [deQuote, splitSlice, ih]

theorem splitSet_deQuote (ts : List Tok) : ∀ (b : Bool) (acc : List S),
    splitSet (ts.map deQuote) b acc = splitSet ts b acc := by
  induction ts with
  | nil => intro b acc; rfl
  | cons t ts ih => intro b acc; rcases t with (_ | u) | _ | _ | _ | _ | _ | _ <;> simp [deQuote, splitSet, ih]

theorem splitMapWith_deQuote (add : List (S × S) → S → S → Outcome (List (S × S))) (ts : List Tok) : ∀ (st : MapSt),
    splitMapWith add (ts.map deQuote) st = splitMapWith add ts st := by
  induction ts with
  | nil => intro st; rfl
  | cons t ts ih =>
    intro st; rcases t with (_ | u) | _ | _ | _ | _ | _ | _ <;> simp only [List.map_cons, deQuote, splitMapWith, ih]

/-- the words, as the token stream the slice state machine expects -/
def wordToks : List S → List Tok
  | [] => [.eof]
  | [w] => [.word w, .eof]
  | w :: ws => .word w :: .comma :: wordToks ws

theorem wordToks_deQuote (ws : List S) : wordToks ws = (canonSlice ws).map deQuote := by
  rw [canonSlice_eq, List.map_append, map_sepBy]
  exact eq_sepBy _ _ wordToks _ rfl (fun _ => rfl) (fun _ _ _ => rfl) ws

/-- comma-separated bare words are scanned as the canonical token stream of the words, unquoted -/
theorem scanText_joinComma (ws : List S) (hw : ∀ w ∈ ws, BareWord false w) :
    scanText false (joinComma ws) = some ((canonSlice ws).map deQuote) := by
  rw [joinComma_eq, canonSlice_eq, List.map_append, map_sepBy]
  exact scanText_sepBy false (fun w => [.word w]) _ _ (fun w => by simp [wrender, WPiece.text]) (fun _ => rfl) ws hw

theorem scanText_joinPairs (kvs : List (S × S)) (hw : ∀ p ∈ kvs, BareWord true p.1 ∧ BareWord true p.2) :
    scanText true (joinPairs kvs) = some ((canonMap kvs).map deQuote) := by
  rw [joinPairs_eq, canonMap_eq, List.map_append, map_sepBy]
  exact scanText_sepBy true (fun p => [.word p.1, .colon, .word p.2]) _ _ (fun p => by simp [wrender, WPiece.text])
    (fun _ => rfl) kvs fun p hp => show Renderable true [.word p.1, .colon, .word p.2] from
      ⟨(hw p hp).1, fun _ => rfl, rfl, nofun, (hw p hp).2⟩

theorem splitSlice_words (ws : List S) : ∀ acc, splitSlice (wordToks ws) true acc = .ok (acc ++ ws) := by
  intro acc
  rw [wordToks_deQuote, splitSlice_deQuote]
  exact splitSlice_canon ws acc

/-! ### slices and maps of ARBITRARY strings, printed item by item -/

def printSliceItems : List (List QItem) → List Char
  | [] => []
  | [x] => quoteItems x
  | x :: xs => quoteItems x ++ ',' :: printSliceItems xs

def printMapItems : List (List QItem × List QItem) → List Char
  | [] => []
  | [(k, v)] => quoteItems k ++ ':' :: quoteItems v
  | (k, v) :: rest => quoteItems k ++ ':' :: (quoteItems v ++ ',' :: printMapItems rest)

theorem printSliceItems_eq : ∀ xs, printSliceItems xs = sepBy quoteItems ',' xs :=
  eq_sepBy_nil _ _ printSliceItems rfl (fun _ => rfl) fun _ _ _ => rfl

theorem printMapItems_eq :
    ∀ kvs, printMapItems kvs = sepBy (fun p => quoteItems p.1 ++ ':' :: quoteItems p.2) ',' kvs :=
  eq_sepBy_nil _ _ printMapItems rfl (fun _ => rfl) fun (k, v) _ _ => (List.append_assoc (quoteItems k) (':' :: quoteItems v) _).symm

/-- what the helpers print for any strings is scanned as the canonical token stream of the strings' bytes -/
theorem scanText_printSliceItems (xs : List (List QItem)) (h : ∀ x ∈ xs, ∀ i ∈ x, i.ok) :
    scanText false (printSliceItems xs) = some (canonSlice (xs.map itemsBytes)) := by
  rw [printSliceItems_eq, canonSlice_eq, sepBy_map]
  exact scanText_sepBy false (fun x => [.qstr x]) _ _ (fun x => by simp [wrender, WPiece.text]) (fun _ => rfl) xs h

theorem scanText_printMapItems (kvs : List (List QItem × List QItem)) (h : ∀ p ∈ kvs, (∀ i ∈ p.1, i.ok) ∧ (∀ i ∈ p.2, i.ok)) :
    scanText true (printMapItems kvs) = some (canonMap (kvs.map fun p => (itemsBytes p.1, itemsBytes p.2))) := by
  rw [printMapItems_eq, canonMap_eq, sepBy_map]
  exact scanText_sepBy true (fun p => [.qstr p.1, .colon, .qstr p.2]) _ _ (fun p => by simp [wrender, WPiece.text])
    (fun _ => rfl) kvs fun p hp => show Renderable true [.qstr p.1, .colon, .qstr p.2] from
      ⟨(h p hp).1, nofun, rfl, nofun, (h p hp).2⟩

/-- ASCII strings are the item lists of their characters: same printed form, same value -/
theorem ascii_slice (zs : List S) (hz : ∀ z ∈ zs, z.all isAscii = true) :
    ∃ xs : List (List QItem), (∀ x ∈ xs, ∀ i ∈ x, i.ok) ∧ printSliceItems xs = printSlice zs ∧ xs.map itemsBytes = zs := by
  refine ⟨zs.map (·.map .ascii), by simpa using fun z h => ascii_items_ok z (hz z h), ?_, ?_⟩
  · rw [printSliceItems_eq, printSlice_eq, sepBy_map]
    exact congrArg (sepBy · ',' zs) (funext fun z => (quoteItems_ascii z).1)
  · simp [Function.comp_def, (quoteItems_ascii _).2]

theorem ascii_map (kvs : List (S × S)) (hz : ∀ p ∈ kvs, p.1.all isAscii = true ∧ p.2.all isAscii = true) :
    ∃ qs : List (List QItem × List QItem), (∀ p ∈ qs, (∀ i ∈ p.1, i.ok) ∧ (∀ i ∈ p.2, i.ok)) ∧
      printMapItems qs = printMap kvs ∧ (qs.map fun p => (itemsBytes p.1, itemsBytes p.2)) = kvs := by
  refine ⟨kvs.map fun p => (p.1.map .ascii, p.2.map .ascii), ?_, ?_, ?_⟩
  · intro p hp
    obtain ⟨q, hq, rfl⟩ := List.mem_map.1 hp
    exact ⟨ascii_items_ok _ (hz q hq).1, ascii_items_ok _ (hz q hq).2⟩
  · rw [printMapItems_eq, printMap_eq, sepBy_map]
    exact congrArg (sepBy · ',' kvs) (funext fun p => by simp [(quoteItems_ascii _).1])
  · simp [Function.comp_def, (quoteItems_ascii _).2]

/-- the special case of the empty text in `parse.StringSlice` agrees with what the scanner and the state machine make
of it -/
theorem sliceText_eq (cs : List Char) : sliceText cs = (scanText false cs).map fun toks => splitSlice toks true [] := by
  cases cs with
  | nil => rfl
  | cons c cs => simp [sliceText, stringSlice]

theorem setText_eq (cs : List Char) : setText cs = (scanText false cs).map fun toks => splitSet toks true [] := by
  cases cs with
  | nil => rfl
  | cons c cs => simp [setText, stringSet]

end Dials.Parse
