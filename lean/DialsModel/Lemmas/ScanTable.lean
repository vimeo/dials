/-
parse.String on the text of a collection, end to end on the models: the scanner model (Model/Scan.lean) feeds the
parse.String model (Model/ParseString.lean) - the path an environment variable or a flag value takes for a slice leaf.
-/
import DialsModel.Model.ScanTable
import DialsModel.Lemmas.ScanWords
import DialsModel.Lemmas.Parse
import DialsModel.Lemmas.Tf

namespace Dials.Parse
open Dials

theorem identRune_digit (m : Bool) (c : Char) (h : isDigitA c = true) : identRune m c = true := by
  have ⟨h1, h2⟩ := (isDigitA_iff c).1 h
  have := identRune_table ⟨c.toNat, by omega⟩
  simp only [Char.ofNat_toNat, List.mem_cons, List.not_mem_nil, or_false] at this
  cases m
  · exact this.1.trans (decide_eq_true ⟨by omega, by omega, by omega⟩)
  · exact this.2.trans (decide_eq_true ⟨by omega, by omega, by omega⟩)

theorem formatInt_bareWord (m : Bool) (v : Int) : BareWord m (formatInt v) := by
  refine ⟨formatInt_ne_nil v, fun x hx => ?_, fun h => ?_⟩
  · rcases formatInt_chars v x hx with rfl | hd
    · cases m <;> decide
    · exact identRune_digit m x hd
  · exact absurd (intChar_not_space (formatInt_chars v ' ' (List.mem_of_head? h))) (by decide)

end Dials.Parse

namespace Dials.Tf
open Dials Dials.Parse

/-- `parse.String` on comma-separated bare words, any slice type: the scanner model and the slice state machine hand
exactly the words to the element parser (the empty text: no word) -/
theorem stringSlice_words (ws : List S) (hw : ∀ w ∈ ws, BareWord false w) :
    stringSlice (String.ofList (joinComma ws) == "") (scanTable (String.ofList (joinComma ws))).1 = .ok ws := by
  have hscan : (scanTable (String.ofList (joinComma ws))).1 = (canonSlice ws).map deQuote := by
    simp [scanTable, scanText_joinComma ws hw]
  rw [hscan, stringSlice, splitSlice_deQuote, splitSlice_canon]
  cases ws with
  | nil => rfl
  | cons x xs => simp [String.ofList_eq_empty_iff, joinComma_ne_nil x xs (hw x (by simp)).1]

end Dials.Tf
