/-
For C16: the environment source's chain (alias → flatten → tag reformat → tag copy → string cast, regenerated from
sources/env/env.go as `Facts.chainEnv`) never reaches a `.panic` of the model on supported field lists
(`SupportedCfg`, `envValue_noPanic`).  Outside `SupportedCfg` the two remaining panics of the model are reachable:
artefacts of the untyped `nilv`, not panics of the code (see `okField`).  The field lists `cx…` at the end are the
ones Props/C16 evaluates.

The panic sites along the chain, and what excludes each under `SupportedCfg`:
  * transformer.go `layerMangledVal[off : off+len(out)]`: each layer's values are as many as its outputs (`All2`
    against the layer's output fields)
  * flatten_mangler.go populateStruct `vs[inputIndex]`: the leaf types of flattenStruct (`leafTys`) are the ones
    populate walks (`populate_np`, any fuel)
  * string_casting_mangler.go `.(*string)`: the values handed over are *string or nil (`IsEnvVal`)
  * transformer.go maybeRecursivelyUnmangle `v.Elem()` / `Index`: values have the shape of their types: `LeafV` after
    string cast / tag copy / tag reformat (a slice of structs is nil or empty), `Shaped` after flatten (every nested
    struct behind a pointer, `okField`)
Three more are gone since the library's repairs and need no exclusion: env.go on an empty `dialsenv` tag (P05, an
error: `envField_sat`); string_casting_mangler.go `sf.Type.Elem()` (P02, an error behind the guard `hasElemTy`, so a
leaf without element type is allowed: `leafTyOk`); populateStruct `originalVal.Set(ptr)` (P02).

`unmangleLayer_sat` / `unmBody_sat` reduce one layer of ReverseTranslate to its per-field body: a pointwise `P` on
(output field, value) comes in, a pointwise `Q` on (input field, result) goes out.  The five manglers instantiate it
(`stringCast_layer`, `passThru_layer` twice, `flatten_layer`, `alias_layer`); `alias_fwd` / `flatten_fwd` /
`passThru_fwd` carry the type shapes forwards; `reverse_cons` chains the layers with `Sat.bind`.  No lemma needs a
fuel bound: with too little fuel the model answers `.err "fuel"`.
-/
import DialsModel.Lemmas.Total
import DialsModel.Lemmas.TfChain
import DialsModel.Lemmas.EnvAlias

namespace Dials.Total
open Dials Dials.Parse Dials.Tf Dials.CaseConv

def envChain (fuel : Nat) (toks : TokTable) : List Mangler := chainOf fuel (parseString toks) Facts.chainEnv

theorem envChain_spec (fuel : Nat) (toks : TokTable) : chainOfSpecs fuel (parseString toks) Facts.chainEnv = some
    [aliasMangler ["dials", "dialsenv"],
     flattenMangler ⟨"dials", .upperCamel, .casePreservingSnake⟩ fuel,
     tagReformatMangler "dials" CaseConv.decodeGoTags .upperSnake,
     tagCopyMangler "dials" "dialsenv",
     stringCastMangler (parseString toks)] := by
  rfl

theorem envChain_eq (fuel : Nat) (toks : TokTable) : envChain fuel toks =
    [aliasMangler ["dials", "dialsenv"],
     flattenMangler ⟨"dials", .upperCamel, .casePreservingSnake⟩ fuel,
     tagReformatMangler "dials" CaseConv.decodeGoTags .upperSnake,
     tagCopyMangler "dials" "dialsenv",
     stringCastMangler (parseString toks)] := by
  rw [envChain, chainOf, envChain_spec]
  rfl

theorem noPanic_of_ok {α : Type} {o : Outcome α} {a : α} (h : o = .ok a) : NoPanic o :=
  noPanic_of_eq_ok h

theorem noPanic_of_err {α : Type} {o : Outcome α} {e : String} (h : o = .err e) : NoPanic o :=
  noPanic_of_eq_err h

theorem noPanic_panic {α : Type} {c : String} (h : NoPanic (Outcome.panic c : Outcome α)) : False :=
  h c rfl

theorem recurseVals_sat (k : Nat) (m : Mangler) (P P' : FT → Val → Prop) :
    ∀ (outs outs' : List FT) (gvals : List Val),
      mapM' (recurseType k m) outs = .ok outs' → All2 P outs' gvals →
      (∀ o ∈ outs, ∀ o' v, recurseType k m o = .ok o' → P o' v → Sat (P' o') (recurseVal k m o v)) →
      Sat (All2 P' outs') (mapM' (fun (p : FT × Val) => recurseVal k m p.1 p.2) (outs.zip gvals))
  | [], _, _, h, _, _ => by
    cases h
    trivial
  | o :: outs, _, _, h, hP, hrec => by
    obtain ⟨o', os', ho, hos, rfl⟩ := mapM'_cons_ok h
    obtain ⟨v, gv', rfl, hPv, hP'⟩ := All2_cons_left hP
    rw [List.zip_cons_cons, mapM'_cons]
    exact (hrec o List.mem_cons_self o' v ho hPv).bind fun _ hw =>
      (recurseVals_sat k m P P' outs os' gv' hos hP' fun a ha => hrec a (List.mem_cons_of_mem _ ha)).bind
        fun _ hws => ⟨hw, hws⟩

theorem unmBody_sat {k : Nat} {m : Mangler} {P P' : FT → Val → Prop} {Qf : Val → Prop}
    {f : FT} {outs outs' : List FT} {gvals : List Val}
    (hrt : mapM' (recurseType k m) outs = .ok outs') (hP : All2 P outs' gvals)
    (hrec : ∀ o ∈ outs, ∀ o' v, recurseType k m o = .ok o' → P o' v → Sat (P' o') (recurseVal k m o v))
    (hun : ∀ vs, All2 P' outs' vs → Sat Qf (m.unmangle f.1 f.2 (outs'.zip vs))) :
    Sat Qf (unmBody k m (f, outs, gvals)) := by
  have hlen : outs.length = gvals.length := by rw [← mapM'_length hrt, All2_length hP]
  have hvs := recurseVals_sat k m P P' outs outs' gvals hrt hP hrec
  simp only [unmBody, hlen, bne_self_eq_false, Bool.false_eq_true, if_false, hrt]
  cases hv : mapM' (fun (p : FT × Val) => recurseVal k m p.1 p.2) (outs.zip gvals) with
  | ok vs => exact hun vs (hvs.of_ok hv)
  | err c => trivial
  | panic c => exact hvs.noPanic c hv

theorem unmangleLayer_cons {k : Nat} {m : Mangler} {f : FT} {fs fs' outs : List FT} {grp ws : List Val}
    (hm : m.mangle f.1 f.2 = .ok outs) (hl : grp.length = outs.length)
    (hfs : mangleLayer (k + 1) m fs = .ok fs') :
    unmangleLayer (k + 1) m (f :: fs) (grp ++ ws) =
      (unmBody k m (f, outs, grp)).bind fun v => (unmangleLayer (k + 1) m fs ws).bind fun vs => .ok (v :: vs) := by
  obtain ⟨groups, hg, _⟩ := mangleLayer_succ_ok hfs
  obtain ⟨outss, hms, _⟩ := mangleLayer_groups k m fs groups hg
  simp only [unmangleLayer_succ, mapM'_cons, hm, hms, ok_bind, List.map_cons, splitCounts, List.take_left' hl,
    List.drop_left' hl, List.zip_cons_cons]

theorem unmangleLayer_sat {m : Mangler} (P Q : FT → Val → Prop) :
    ∀ {fuel : Nat} {fs fs' : List FT} {vals : List Val}, mangleLayer fuel m fs = .ok fs' → All2 P fs' vals →
    (∀ f ∈ fs, ∀ outs outs' gvals, m.mangle f.1 f.2 = .ok outs →
      mapM' (recurseType (fuel - 1) m) outs = .ok outs' → All2 P outs' gvals →
      Sat (Q f) (unmBody (fuel - 1) m (f, outs, gvals))) →
    Sat (All2 Q fs) (unmangleLayer fuel m fs vals)
  | 0, _, _, _, hm, _, _ => by cases hm
  | k + 1, [], _, _, hm, hP, _ => by
    cases hm
    cases All2_nil_left hP
    trivial
  | k + 1, f :: fs, _, _, hm, hP, hbody => by
    obtain ⟨outs, g, fs', hmf, hg, hfs, rfl⟩ := mangleLayer_cons_ok hm
    obtain ⟨v1, v2, rfl, hP1, hP2⟩ := All2_append_inv hP
    rw [unmangleLayer_cons hmf ((All2_length hP1).symm.trans (mapM'_length hg)) hfs]
    exact (hbody f List.mem_cons_self outs g v1 hmf hg hP1).bind fun _ hr =>
      (unmangleLayer_sat P Q hfs hP2 fun f' hf' => hbody f' (List.mem_cons_of_mem _ hf')).bind
        fun _ hrs => ⟨hr, hrs⟩

/-- a flattened leaf type that the recursing manglers skip or (a slice of structs) walk element-wise -/
def leafTyOk : Ty → Bool
  | .ptr e => !e.isStructTy
  | .array _ e => !e.isStructTy
  | .struct _ => false
  | _ => true

/-- at a slice of structs only nil or the empty slice arrive: parse.String cannot cast an element to a struct
(`parseString_slice_struct`) -/
def LeafV (t : Ty) (v : Val) : Prop :=
  match t with
  | .slice e => e.isStructTy = true → (v = .nilv ∨ v = .list [])
  | _ => True

theorem LeafV_nilv (t : Ty) : LeafV t .nilv := by
  unfold LeafV
  split
  · exact fun _ => Or.inl rfl
  · trivial

theorem recurseVal_id_sat (k : Nat) (m : Mangler) (o : FT) (v : Val)
    (h : m.recurse = false ∨ structish o.2 = none) : Sat (· = v) (recurseVal k m o v) := by
  cases k with
  | zero => trivial
  | succ k =>
    rw [recurseVal_id k m o v h]
    exact rfl

theorem recurseType_inert {k : Nat} {m : Mangler} {o o' : FT} (hr : recurseType k m o = .ok o')
    (h : m.recurse = false ∨ structish o.2 = none) : o' = o := by
  cases k with
  | zero => cases hr
  | succ k => exact (Outcome.ok.inj ((recurseType_id k m o h).symm.trans hr)).symm

theorem recurseType_none {k : Nat} {m : Mangler} {o o' : FT} (hr : recurseType k m o = .ok o')
    (hs : structish o.2 = none) : o' = o :=
  recurseType_inert hr (.inr hs)

theorem recurseType_leaf {k : Nat} {m : Mangler} {h : Hdr} {t : Ty} {o' : FT}
    (hr : recurseType k m (h, t) = .ok o') (hok : leafTyOk t = true) :
    leafTyOk o'.2 = true ∧ ∀ v, LeafV o'.2 v ↔ LeafV t v := by
  cases k with
  | zero => cases hr
  | succ k =>
    rcases recurseType_cases hr with ⟨_, rfl⟩ | ⟨_, ifs, wrap, r, hs, _, rfl⟩
    · exact ⟨hok, fun _ => Iff.rfl⟩
    · rcases structish_some hs with rfl | rfl | rfl | ⟨n, rfl⟩
      · cases hok
      · cases hok
      · cases hs
        exact ⟨rfl, fun _ => Iff.rfl⟩
      · cases hok

theorem recurseVal_leaf (k : Nat) (m : Mangler) (h : Hdr) (t : Ty) (v : Val)
    (hok : leafTyOk t = true) (hv : LeafV t v) : Sat (· = v) (recurseVal k m (h, t) v) := by
  cases hs : structish t with
  | none => exact recurseVal_id_sat k m (h, t) v (.inr hs)
  | some p =>
    rcases structish_some hs with rfl | rfl | rfl | ⟨n, rfl⟩
    · cases hok
    · cases hok
    · cases k with
      | zero => trivial
      | succ k =>
        simp only [recurseVal]
        split
        · exact rfl
        · rcases hv rfl with rfl | rfl
          · exact rfl
          · exact rfl
    · cases hok

def PassThru (m : Mangler) : Prop :=
  (∀ h t outs, m.mangle h t = .ok outs → ∃ h', outs = [(h', t)]) ∧
  (∀ h t fv rest, m.unmangle h t (fv :: rest) = .ok fv.2)

theorem passThru_tagCopy (src new : String) : PassThru (tagCopyMangler src new) :=
  ⟨tagCopy_mangle_ty src new, fun _ _ _ _ => rfl⟩

theorem passThru_tagReformat (tag : String) (dec : List Char → Option (List (List Char))) (enc : CaseConv.Scheme) :
    PassThru (tagReformatMangler tag dec enc) :=
  ⟨tagReformat_mangle_ty tag dec enc, fun _ _ _ _ => rfl⟩

theorem passThru_layer {m : Mangler} (hpt : PassThru m) {fuel : Nat} {fs fs' : List FT} {vals : List Val}
    (hm : mangleLayer fuel m fs = .ok fs') (hok : ∀ f ∈ fs, leafTyOk f.2 = true)
    (hv : All2 (fun (o : FT) v => LeafV o.2 v) fs' vals) :
    Sat (All2 (fun (f : FT) v => LeafV f.2 v) fs) (unmangleLayer fuel m fs vals) := by
  refine unmangleLayer_sat _ _ hm hv fun f hf outs outs' gvals hmo hrt hP => ?_
  obtain ⟨h', rfl⟩ := hpt.1 _ _ _ hmo
  obtain ⟨o', os', ho', hos', rfl⟩ := mapM'_cons_ok hrt
  cases hos'
  have hiff := (recurseType_leaf ho' (hok f hf)).2
  refine unmBody_sat (P' := fun o v => LeafV o.2 v) hrt hP ?_ ?_
  · intro o ho o2 v hro hv
    cases List.mem_singleton.1 ho
    cases ho'.symm.trans hro
    exact (recurseVal_leaf _ m h' f.2 v (hok f hf) ((hiff v).1 hv)).mono fun w hw => hw ▸ hv
  · intro vs hvs
    obtain ⟨w, ws, rfl, hw, hws⟩ := All2_cons_left hvs
    cases All2_nil_left hws
    rw [List.zip_cons_cons, hpt.2]
    exact (hiff w).1 hw

theorem mangleLayer_mem {fuel : Nat} {m : Mangler} {fs fs' : List FT} (hm : mangleLayer fuel m fs = .ok fs')
    {f' : FT} (hf' : f' ∈ fs') :
    ∃ f ∈ fs, ∃ outs, m.mangle f.1 f.2 = .ok outs ∧ ∃ o ∈ outs, recurseType (fuel - 1) m o = .ok f' := by
  cases fuel with
  | zero => cases hm
  | succ k =>
    obtain ⟨groups, hg, rfl⟩ := mangleLayer_succ_ok hm
    obtain ⟨g, hgm, hfg⟩ := List.mem_flatten.1 hf'
    obtain ⟨f, hf, hfg'⟩ := mapM'_mem_result hg g hgm
    cases hmo : m.mangle f.1 f.2 with
    | ok outs =>
      simp only [hmo] at hfg'
      exact ⟨f, hf, outs, hmo, mapM'_mem_result hfg' f' hfg⟩
    | err c => simp only [hmo] at hfg'; cases hfg'
    | panic c => simp only [hmo] at hfg'; cases hfg'

theorem passThru_fwd {m : Mangler} (hpt : PassThru m) {fuel : Nat} {fs fs' : List FT}
    (hm : mangleLayer fuel m fs = .ok fs') (hok : ∀ f ∈ fs, leafTyOk f.2 = true) :
    ∀ f' ∈ fs', leafTyOk f'.2 = true := by
  intro f' hf'
  obtain ⟨f, hf, outs, hmo, o, ho, hro⟩ := mangleLayer_mem hm hf'
  obtain ⟨h', rfl⟩ := hpt.1 _ _ _ hmo
  cases List.mem_singleton.1 ho
  exact (recurseType_leaf hro (hok f hf)).1

def IsEnvVal (v : Val) : Prop := v = .nilv ∨ ∃ s, v = .ptr (.s s)

theorem parseString_slice_struct (toks : TokTable) (s : String) (ifs : Fields) (v : Val)
    (h : parseString toks s (.slice (.struct ifs)) = .ok v) : v = .list [] := by
  simp only [parseString] at h
  split at h
  · rename_i items _
    simp only [isPlainString, Bool.false_eq_true, if_false] at h
    cases items with
    | nil => simp [mapM'] at h; exact h.symm
    | cons it rest => simp [mapM', parseScalar, Outcome.bind] at h
  · cases h
  · cases h

theorem stringCast_unmangle (toks : TokTable) (h : Hdr) (t : Ty) (o : FT) (v : Val) (hv : IsEnvVal v) :
    Sat (LeafV t) ((stringCastMangler (parseString toks)).unmangle h t [(o, v)]) := by
  rcases hv with rfl | ⟨str, rfl⟩
  · exact LeafV_nilv t
  · simp only [stringCastMangler]
    split
    · trivial
    · split
      · next r hr =>
        unfold LeafV
        split
        · next e _ =>
          intro he
          cases e with
          | struct ifs => exact .inr (parseString_slice_struct toks str ifs r hr)
          | _ => cases he
        · trivial
      · trivial
      · next c hc => exact parseString_noPanic _ _ _ c hc

theorem stringCast_layer (toks : TokTable) {fuel : Nat} {fs fs' : List FT} {vals : List Val}
    (hm : mangleLayer fuel (stringCastMangler (parseString toks)) fs = .ok fs')
    (hv : All2 (fun (_ : FT) v => IsEnvVal v) fs' vals) :
    Sat (All2 (fun (f : FT) v => LeafV f.2 v) fs) (unmangleLayer fuel (stringCastMangler (parseString toks)) fs vals) := by
  refine unmangleLayer_sat _ _ hm hv fun f _ outs outs' gvals hmo hrt hP => ?_
  cases hmo
  obtain ⟨o', os', ho', hos', rfl⟩ := mapM'_cons_ok hrt
  cases hos'
  refine unmBody_sat (P' := fun _ v => IsEnvVal v) hrt hP ?_ ?_
  · intro o ho o2 v _ hv
    cases List.mem_singleton.1 ho
    exact (recurseVal_id_sat _ _ (f.1, strPtrTy) v (.inr rfl)).mono fun w hw => hw ▸ hv
  · intro vs hvs
    obtain ⟨w, ws, rfl, hw, hws⟩ := All2_cons_left hvs
    cases All2_nil_left hws
    exact stringCast_unmangle toks f.1 f.2 o' w hw

mutual
def okUnder : Ty → Bool
  | .ptr e => okUnder e
  | .struct fs => okFields fs
  | _ => true
/-- the type of a nested field as the flatten mangler meets it.  Two shapes are excluded, both for an artefact of the
model (the untyped `nilv`), not for a panic of the code:
  * a struct held by value.  Since the repair of P02 `populate` rebuilds it when one of its leaves is set
    (`C16_env_value_struct_rebuilt`), but it leaves an UNSET one as `nilv` (the model has no zero struct); when a
    sibling field is set the recursing alias mangler meets that `nilv` at a struct type: `ReverseTranslate of a
    non-struct` (`C16_env_value_struct_sibling_model_artefact`).  The real code passes the zero struct through.
  * an array of structs: an unset array reaches the recursing manglers as nil: `unexpected value kind in recursive
    unmangle` (`C16_env_array_of_structs_model_artefact`).
A type without `Elem()` (scalar, duration, text unmarshaler) is fine: since the repair of P02 the string-cast mangler
answers it with an error (`C16_env_unwrapped_leaf_is_error`). -/
def okField : Ty → Bool
  | .ptr e => okUnder e
  | .struct _ => false
  | .array _ e => !e.isStructTy
  | _ => true
def okFields : Fields → Bool
  | .nil => true
  | .cons _ _ _ t rest => okField t && okFields rest
end

/-- at the top level the flatten mangler walks pointer types only: slices, maps, sets are leaves, everything else makes
`flattenMangle` return an error -/
def okTop : Ty → Bool
  | .ptr e => okUnder e
  | _ => true

mutual
def Shaped : Ty → Val → Prop
  | .ptr e, v =>
    match e with
    | .struct ifs => v = .nilv ∨ ∃ vs, v = .ptr (.struct vs) ∧ ShapedFs ifs vs
    | _ => True
  | .slice e, v => e.isStructTy = true → (v = .nilv ∨ v = .list [])
  | .array _ e, _ => e.isStructTy = false
  | .struct _, _ => False
  | _, _ => True
def ShapedFs : Fields → List Val → Prop
  | .nil, vs => vs = []
  | .cons _ _ _ t r, vs => ∃ v vs', vs = v :: vs' ∧ Shaped t v ∧ ShapedFs r vs'
end

theorem shapedFs_iff : ∀ (fs : Fields) (vs : List Val),
    ShapedFs fs vs ↔ All2 (fun (f : FT) v => Shaped f.2 v) fs.toList vs
  | .nil, vs => ⟨fun h => h ▸ trivial, All2_nil_left⟩
  | .cons _ _ _ t r, vs => by
    simp only [ShapedFs, Fields.toList]
    constructor
    · rintro ⟨v, vs', rfl, h1, h2⟩
      exact ⟨h1, (shapedFs_iff r vs').1 h2⟩
    · intro h
      obtain ⟨v, vs', rfl, h1, h2⟩ := All2_cons_left h
      exact ⟨v, vs', rfl, h1, (shapedFs_iff r vs').2 h2⟩

theorem okFields_iff : ∀ (fs : Fields), okFields fs = true ↔ ∀ f ∈ fs.toList, okField f.2 = true
  | .nil => by simp [okFields, Fields.toList]
  | .cons _ _ _ t r => by simp [okFields, Fields.toList, okFields_iff r]

theorem okUnder_of_struct (t : Ty) (ifs : Fields) (h : stripPtrs t = .struct ifs) : okUnder t = okFields ifs := by
  fun_induction stripPtrs t with
  | case1 e ih => exact ih h
  | case2 t _ =>
    cases h
    rfl

theorem okField_of_struct {t : Ty} {ifs : Fields} (hs : stripPtrs t = .struct ifs) (hok : okField t = true) :
    ptrDepth t ≠ 0 ∧ okFields ifs = true := by
  cases t with
  | ptr e => exact ⟨Nat.succ_ne_zero _, okUnder_of_struct e ifs hs ▸ hok⟩
  | struct fs => cases hok
  | _ => cases hs

theorem okField_of_leaf {t : Ty} (hs : ∀ ifs, stripPtrs t ≠ .struct ifs) (hok : okField t = true) :
    leafTyOk t = true := by
  cases t with
  | ptr e =>
    cases e with
    | struct fs => exact absurd rfl (hs fs)
    | _ => rfl
  | array n e => exact hok
  | struct fs => cases hok
  | _ => rfl

theorem okField_of_top {t : Ty} (hok : okTop t = true) (hn : isNilableTy t = true) : okField t = true := by
  cases t with
  | ptr e => exact hok
  | slice e => rfl
  | map a b => rfl
  | set a => rfl
  | _ => cases hn

theorem Shaped_of_leaf {t : Ty} {v : Val} (hok : leafTyOk t = true) (hv : LeafV t v) : Shaped t v := by
  cases t with
  | ptr e =>
    cases e with
    | struct ifs => cases hok
    | _ => simp only [Shaped]
  | slice e => simpa only [Shaped, LeafV] using hv
  | array n e => simpa [Shaped, leafTyOk] using hok
  | struct fs => cases hok
  | _ => simp only [Shaped]

theorem Shaped_wrap {t : Ty} {ifs : Fields} (hs : stripPtrs t = .struct ifs) (hd : ptrDepth t ≠ 0)
    (fvs : List Val) (hf : All2 (fun (f : FT) v => Shaped f.2 v) ifs.toList fvs) :
    Shaped t .nilv ∧ Shaped t (wrapPtrs (ptrDepth t) (.struct fvs)) := by
  cases t with
  | ptr e =>
    cases e with
    | struct fs =>
      cases hs
      exact ⟨.inl rfl, .inr ⟨fvs, rfl, (shapedFs_iff _ _).2 hf⟩⟩
    | _ => simp only [Shaped, and_self]
  | struct fs => exact absurd rfl hd
  | _ => cases hs

mutual
def leafTysAux (orig : Ty) : Ty → List Ty
  | .ptr e => leafTysAux orig e
  | .struct fs => leafTysFs fs
  | _ => [orig]
def leafTysFs : Fields → List Ty
  | .nil => []
  | .cons _ _ _ t r => leafTysAux t t ++ leafTysFs r
end

def leafTys (t : Ty) : List Ty := leafTysAux t t

theorem leafTysAux_struct (orig t : Ty) (ifs : Fields) (h : stripPtrs t = .struct ifs) :
    leafTysAux orig t = leafTysFs ifs := by
  fun_induction stripPtrs t with
  | case1 e ih => exact ih h
  | case2 t _ =>
    cases h
    rfl

theorem leafTysAux_leaf (orig t : Ty) (h : ∀ ifs, stripPtrs t ≠ .struct ifs) : leafTysAux orig t = [orig] := by
  fun_induction stripPtrs t with
  | case1 e ih => exact ih h
  | case2 t hnp =>
    unfold leafTysAux
    split
    · exact (hnp _ rfl).elim
    · exact absurd rfl (h _)
    · rfl

theorem leafTysFs_eq : ∀ (fs : Fields), leafTysFs fs = fs.toList.flatMap (fun f => leafTys f.2)
  | .nil => rfl
  | .cons _ _ _ t r => by simp only [leafTysFs, Fields.toList, List.flatMap_cons, leafTys, leafTysFs_eq r]

theorem leafTys_struct {t : Ty} {ifs : Fields} (hs : stripPtrs t = .struct ifs) :
    leafTys t = ifs.toList.flatMap (fun f => leafTys f.2) := by
  rw [leafTys, leafTysAux_struct t t ifs hs, leafTysFs_eq]

theorem leafTys_leaf {t : Ty} (hs : ∀ ifs, stripPtrs t ≠ .struct ifs) : leafTys t = [t] :=
  leafTysAux_leaf t t hs

theorem flattenStruct_tys (cfg : FlattenCfg) : ∀ (fuel : Nat) (names words path : List String)
    (fs : List FT) (outs : List FT), flattenStruct cfg fuel names words path fs = .ok outs →
    outs.map (·.2) = fs.flatMap (fun f => leafTys f.2)
  | 0, _, _, _, _, _, h => by cases h
  | _ + 1, _, _, _, [], outs, h => by
    cases h; rfl
  | fuel + 1, names, words, path, (nh, nt) :: rest, outs, h => by
    simp only [flattenStruct] at h
    split at h
    · cases h
    · cases h
    · split at h
      · next a b ha hb =>
        cases h
        rw [List.map_append, List.flatMap_cons, flattenStruct_tys cfg fuel names words path rest b hb]
        congr 1
        split at ha
        · next ifs hs =>
          rw [flattenStruct_tys cfg fuel _ _ _ _ a ha, leafTys_struct hs]
        · next hs =>
          cases ha
          exact (leafTys_leaf hs).symm
      all_goals cases h

theorem flattenMangle_tys (cfg : FlattenCfg) (fuel : Nat) (h : Hdr) (t : Ty) (outs : List FT)
    (hm : flattenMangle cfg fuel h t = .ok outs) : outs.map (·.2) = leafTys t ∧ isNilableTy t = true := by
  simp only [flattenMangle] at hm
  split at hm
  · cases hm
  · next hn =>
    refine ⟨?_, by simpa using hn⟩
    split at hm
    · cases hm
    · cases hm
    · split at hm
      · next ifs hs =>
        rw [flattenStruct_tys cfg fuel _ _ _ _ outs hm, leafTys_struct hs]
      · next hs =>
        cases hm
        exact (leafTys_leaf hs).symm

theorem leafTys_ok : ∀ (n : Nat) (t : Ty), tySize t ≤ n → okField t = true → ∀ l ∈ leafTys t, leafTyOk l = true
  | 0, t, h => by
    cases t <;> cases h
  | n + 1, t, h => by
    intro hok l hl
    rcases struct_or_leaf t with ⟨ifs, hs⟩ | hleaf
    · rw [leafTys_struct hs, List.mem_flatMap] at hl
      obtain ⟨f, hf, hlf⟩ := hl
      have hsz := tySize_field_lt hs hf
      exact leafTys_ok n f.2 (by omega) ((okFields_iff ifs).1 (okField_of_struct hs hok).2 f hf) l hlf
    · rw [leafTys_leaf hleaf] at hl
      cases List.mem_singleton.1 hl
      exact okField_of_leaf hleaf hok

theorem populate_zero (t : Ty) (vals : List Val) : populate 0 t vals = .err "fuel" := by
  unfold populate; rfl

theorem fields_zero (fuel : Nat) (fs : List FT) (vals acc : List Val) (any : Bool) :
    populate.fields fuel 0 fs vals acc any = .err "fuel" := by
  unfold populate.fields; rfl

theorem fields_nil (fuel fl : Nat) (vals acc : List Val) (any : Bool) :
    populate.fields fuel (fl + 1) [] vals acc any = .ok (acc, vals, any) := by
  unfold populate.fields; rfl

theorem fields_step_struct (fuel fl : Nat) (f : FT) (fs : List FT) (vals acc : List Val) (any : Bool)
    {ifs : Fields} (hs : stripPtrs f.2 = .struct ifs) :
    populate.fields fuel (fl + 1) (f :: fs) vals acc any =
      (populate fuel f.2 vals).bind fun x => populate.fields fuel fl fs x.2.1 (acc ++ [x.1]) (any || x.2.2) := by
  conv => lhs; unfold populate.fields
  split
  · cases populate fuel f.2 vals <;> rfl
  · rename_i hn
    exact absurd hs (hn ifs)

theorem fields_step_leaf (fuel fl : Nat) (f : FT) (fs : List FT) (vals acc : List Val) (any : Bool)
    (hs : ∀ ifs, stripPtrs f.2 ≠ .struct ifs) :
    populate.fields fuel (fl + 1) (f :: fs) vals acc any =
      match vals with
      | [] => .panic "index out of range"
      | v :: vals' => populate.fields fuel fl fs vals' (acc ++ [v]) (any || !v.isNil) := by
  conv => lhs; unfold populate.fields
  split
  · rename_i ifs' hs'
    exact absurd hs' (hs ifs')
  · rfl

def PopNP (fuel : Nat) (t : Ty) : Prop :=
  ∀ (lv rest : List Val), All2 LeafV (leafTys t) lv →
    Sat (fun x => x.2.1 = rest ∧ Shaped t x.1) (populate fuel t (lv ++ rest))

theorem fields_np (fuel : Nat) (ih : ∀ t, okField t = true → PopNP fuel t) :
    ∀ (fs : List FT) (fl : Nat) (lv rest acc : List Val) (any : Bool),
      (∀ f ∈ fs, okField f.2 = true) → All2 LeafV (fs.flatMap (fun f => leafTys f.2)) lv →
      Sat (fun x => x.2.1 = rest ∧ ∃ new, x.1 = acc ++ new ∧ All2 (fun (f : FT) v => Shaped f.2 v) fs new)
        (populate.fields fuel fl fs (lv ++ rest) acc any)
  | _, 0, _, _, _, _, _, _ => by
    rw [fields_zero]
    trivial
  | [], fl + 1, lv, rest, acc, any, _, hlv => by
    cases All2_nil_left hlv
    rw [fields_nil]
    exact ⟨rfl, [], (List.append_nil acc).symm, trivial⟩
  | f :: fs, fl + 1, lv, rest, acc, any, hok, hlv => by
    rw [List.flatMap_cons] at hlv
    obtain ⟨l1, l2, rfl, h1, h2⟩ := All2_append_inv hlv
    have hokf := hok f List.mem_cons_self
    have hrest : ∀ v a, Shaped f.2 v →
        Sat (fun x => x.2.1 = rest ∧ ∃ new, x.1 = acc ++ new ∧ All2 (fun (f : FT) v => Shaped f.2 v) (f :: fs) new)
          (populate.fields fuel fl fs (l2 ++ rest) (acc ++ [v]) a) := fun v a hv =>
      (fields_np fuel ih fs fl l2 rest (acc ++ [v]) a (fun g hg => hok g (List.mem_cons_of_mem _ hg)) h2).mono
        fun x ⟨hr, new, hnew, hsh⟩ => ⟨hr, v :: new, by rw [hnew, List.append_assoc]; rfl, hv, hsh⟩
    rcases struct_or_leaf f.2 with ⟨ifs, hs⟩ | hleaf
    · rw [fields_step_struct fuel fl f fs _ acc any hs, List.append_assoc]
      exact (ih f.2 hokf l1 (l2 ++ rest) h1).bind fun x ⟨hr, hsh⟩ => hr ▸ hrest _ _ hsh
    · rw [leafTys_leaf hleaf] at h1
      obtain ⟨v, l1', rfl, hv, hl1'⟩ := All2_cons_left h1
      cases All2_nil_left hl1'
      rw [fields_step_leaf fuel fl f fs _ acc any hleaf]
      exact hrest _ _ (Shaped_of_leaf (okField_of_leaf hleaf hokf) hv)

theorem populate_np : ∀ (fuel : Nat) (t : Ty), okField t = true → PopNP fuel t
  | 0, t, _ => by
    intro lv rest _
    rw [populate_zero]
    trivial
  | fuel + 1, t, hok => by
    intro lv rest hlv
    rcases struct_or_leaf t with ⟨ifs, hs⟩ | hleaf
    · obtain ⟨hd, hfs⟩ := okField_of_struct hs hok
      rw [leafTys_struct hs] at hlv
      have hf := fields_np fuel (populate_np fuel) ifs.toList (ifs.toList.length + 1) lv rest [] false
        ((okFields_iff ifs).1 hfs) hlv
      rw [populate_struct hs]
      cases hp : populate.fields fuel (ifs.toList.length + 1) ifs.toList (lv ++ rest) [] false with
      | ok x =>
        obtain ⟨fvs, r, a⟩ := x
        obtain ⟨hr, new, hnew, hsh⟩ := hf.of_ok hp
        cases hr
        cases (List.nil_append new ▸ hnew : fvs = new)
        have := Shaped_wrap hs hd fvs hsh
        cases a
        · exact ⟨rfl, this.1⟩
        · exact ⟨rfl, this.2⟩
      | err c => trivial
      | panic c => exact hf.noPanic c hp
    · rw [leafTys_leaf hleaf] at hlv
      obtain ⟨v, l', rfl, hv, hl'⟩ := All2_cons_left hlv
      cases All2_nil_left hl'
      rw [populate_leaf hleaf]
      exact ⟨rfl, Shaped_of_leaf (okField_of_leaf hleaf hok) hv⟩

theorem flatten_layer (cfg : FlattenCfg) (fuelF : Nat) {fuel : Nat} {fs fs' : List FT} {vals : List Val}
    (hm : mangleLayer fuel (flattenMangler cfg fuelF) fs = .ok fs') (hok : ∀ f ∈ fs, okTop f.2 = true)
    (hv : All2 (fun (o : FT) v => LeafV o.2 v) fs' vals) :
    Sat (All2 (fun (f : FT) v => Shaped f.2 v) fs) (unmangleLayer fuel (flattenMangler cfg fuelF) fs vals) := by
  refine unmangleLayer_sat _ _ hm hv fun f hf outs outs' gvals hmo hrt hP => ?_
  obtain ⟨htys, hnil⟩ := flattenMangle_tys cfg fuelF f.1 f.2 outs hmo
  cases (mapM'_recurseType_id (flattenMangler cfg fuelF) outs (fun _ _ => Or.inl rfl) _ outs' hrt).1
  refine unmBody_sat (P' := fun o v => LeafV o.2 v) hrt hP ?_ ?_
  · intro o _ o2 v hro hv
    cases recurseType_inert hro (.inl rfl)
    exact (recurseVal_id_sat _ _ o v (.inl rfl)).mono fun w hw => hw ▸ hv
  · intro vs hvs
    have hmap : (outs.zip vs).map (·.2) = vs := List.map_snd_zip (Nat.le_of_eq (All2_length hvs).symm)
    have hp := populate_np fuelF f.2 (okField_of_top (hok f hf) hnil) vs []
      (htys ▸ (All2_map_left (R := LeafV) (fun (o : FT) => o.2)).2 hvs)
    rw [List.append_nil] at hp
    show Sat (Shaped f.2) (flattenUnmangle fuelF f.1 f.2 (outs.zip vs))
    simp only [flattenUnmangle, hmap]
    cases hpe : populate fuelF f.2 vs with
    | ok x =>
      obtain ⟨v, r, a⟩ := x
      obtain ⟨hr, hsh⟩ := hp.of_ok hpe
      cases hr
      exact hsh
    | err c => trivial
    | panic c => exact hp.noPanic c hpe

theorem flatten_fwd (cfg : FlattenCfg) (fuelF : Nat) {fuel : Nat} {fs fs' : List FT}
    (hm : mangleLayer fuel (flattenMangler cfg fuelF) fs = .ok fs') (hok : ∀ f ∈ fs, okTop f.2 = true) :
    ∀ f' ∈ fs', leafTyOk f'.2 = true := by
  intro f' hf'
  obtain ⟨f, hf, outs, hmo, o, ho, hro⟩ := mangleLayer_mem hm hf'
  cases recurseType_inert hro (.inl rfl)
  obtain ⟨htys, hnil⟩ := flattenMangle_tys cfg fuelF f.1 f.2 outs hmo
  exact leafTys_ok _ f.2 (Nat.le_refl _) (okField_of_top (hok f hf) hnil) _
    (htys ▸ List.mem_map.2 ⟨f', ho, rfl⟩)

theorem aliasMangle_ty {tags : List String} {h : Hdr} {t : Ty} {outs : List FT}
    (hm : aliasMangle tags h t = .ok outs) : ∀ o ∈ outs, o.2 = t := by
  rw [aliasMangle_eq] at hm
  split at hm <;> cases hm <;> simp

theorem aliasUnmangle_noPanic (h : Hdr) (t : Ty) (fvs : List (FT × Val)) : NoPanic (aliasUnmangle h t fvs) := by
  unfold aliasUnmangle
  repeat' split
  all_goals exact noPanic_of_isPanic rfl

theorem recurseVal_ptr_struct {k : Nat} {m : Mangler} (hr : m.recurse = true) (h : Hdr) (ifs : Fields)
    (vs : List Val) : recurseVal (k + 1) m (h, .ptr (.struct ifs)) (.ptr (.struct vs)) =
      (unmangleLayer k m ifs.toList vs).bind fun r => .ok (.ptr (.struct r)) := by
  simp only [recurseVal, hr, structish, Bool.not_true, Bool.false_eq_true, if_false]
  cases unmangleLayer k m ifs.toList vs <;> rfl

theorem alias_np (tags : List String) : ∀ (k : Nat),
    (∀ (fs fs' : List FT) (vals : List Val), mangleLayer k (aliasMangler tags) fs = .ok fs' →
      All2 (fun (f : FT) v => Shaped f.2 v) fs' vals →
      Sat (fun _ => True) (unmangleLayer k (aliasMangler tags) fs vals)) ∧
    (∀ (o o' : FT) (v : Val), recurseType k (aliasMangler tags) o = .ok o' → Shaped o'.2 v →
      Sat (fun _ => True) (recurseVal k (aliasMangler tags) o v))
  | 0 => ⟨fun _ _ _ hm _ => (by cases hm), fun _ _ _ hro _ => (by cases hro)⟩
  | k + 1 => by
    obtain ⟨ihL, ihV⟩ := alias_np tags k
    refine ⟨fun fs fs' vals hm hv => ?_, fun ⟨hd, t⟩ o' v hro hv => ?_⟩
    · refine (unmangleLayer_sat (fun f v => Shaped f.2 v) (fun _ _ => True) hm hv ?_).mono fun _ _ => trivial
      intro f _ outs outs' gvals _ hrt hP
      exact unmBody_sat (P' := fun _ _ => True) hrt hP (fun o _ o' v hro hv => ihV o o' v hro hv)
        fun vs _ => (aliasUnmangle_noPanic f.1 f.2 (outs'.zip vs)).sat fun _ _ => trivial
    · rcases recurseType_cases hro with ⟨hid, rfl⟩ | ⟨_, ifs, wrap, r, hs, hml, rfl⟩
      · exact (recurseVal_id_sat _ _ (hd, t) v hid).mono fun _ _ => trivial
      · rcases structish_some hs with rfl | rfl | rfl | ⟨n, rfl⟩ <;> cases hs
        · exact hv.elim
        · rcases hv with rfl | ⟨vs, rfl, hvs⟩
          · simp only [recurseVal, aliasMangler, structish]
            trivial
          · rw [recurseVal_ptr_struct rfl]
            exact (ihL ifs.toList r vs hml (toList_ofList r ▸ (shapedFs_iff _ _).1 hvs)).bind fun _ _ => trivial
        · exact (recurseVal_leaf _ _ hd (.slice (.struct ifs)) v rfl hv).mono fun _ _ => trivial
        · cases hv

theorem alias_layer (tags : List String) {fuel : Nat} {fs fs' : List FT} {vals : List Val}
    (hm : mangleLayer fuel (aliasMangler tags) fs = .ok fs')
    (hv : All2 (fun (f : FT) v => Shaped f.2 v) fs' vals) :
    Sat (fun _ => True) (unmangleLayer fuel (aliasMangler tags) fs vals) :=
  (alias_np tags fuel).1 fs fs' vals hm hv

theorem alias_shape (tags : List String) : ∀ (k : Nat),
    (∀ (fs fs' : List FT), mangleLayer k (aliasMangler tags) fs = .ok fs' →
      (∀ f ∈ fs, okField f.2 = true) → ∀ f' ∈ fs', okField f'.2 = true) ∧
    (∀ (o o' : FT), recurseType k (aliasMangler tags) o = .ok o' →
      (okField o.2 = true → okField o'.2 = true) ∧ (okTop o.2 = true → okTop o'.2 = true))
  | 0 => ⟨fun _ _ hm => (by cases hm), fun _ _ hro => (by cases hro)⟩
  | k + 1 => by
    obtain ⟨ihL, ihT⟩ := alias_shape tags k
    refine ⟨fun fs fs' hm hok f' hf' => ?_, fun ⟨hd, t⟩ o' hro => ?_⟩
    · obtain ⟨f, hf, outs, hmo, o, ho, hro⟩ := mangleLayer_mem hm hf'
      exact (ihT o f' hro).1 (aliasMangle_ty hmo o ho ▸ hok f hf)
    · rcases recurseType_cases hro with ⟨_, rfl⟩ | ⟨_, ifs, wrap, r, hs, hml, rfl⟩
      · exact ⟨id, id⟩
      · rcases structish_some hs with rfl | rfl | rfl | ⟨n, rfl⟩ <;> cases hs
        · exact ⟨fun hc => (by cases hc), fun _ => rfl⟩
        · have key : okFields ifs = true → okFields (Fields.ofList r) = true := fun hok =>
            (okFields_iff _).2 (by rw [toList_ofList]; exact ihL ifs.toList r hml ((okFields_iff ifs).1 hok))
          exact ⟨key, key⟩
        · exact ⟨fun _ => rfl, fun _ => rfl⟩
        · exact ⟨fun hc => (by cases hc), fun _ => rfl⟩

theorem alias_fwd (tags : List String) {fuel : Nat} {fs fs' : List FT}
    (hm : mangleLayer fuel (aliasMangler tags) fs = .ok fs') (hok : ∀ f ∈ fs, okTop f.2 = true) :
    ∀ f' ∈ fs', okTop f'.2 = true := by
  intro f' hf'
  obtain ⟨f, hf, outs, hmo, o, ho, hro⟩ := mangleLayer_mem hm hf'
  exact ((alias_shape tags _).2 o f' hro).2 (aliasMangle_ty hmo o ho ▸ hok f hf)

theorem mangleLayer_congr (m m' : Mangler) (hmg : m.mangle = m'.mangle) (hrc : m.recurse = m'.recurse) :
    ∀ (k : Nat), (∀ fs, mangleLayer k m fs = mangleLayer k m' fs) ∧ (∀ o, recurseType k m o = recurseType k m' o)
  | 0 => ⟨fun _ => rfl, fun _ => rfl⟩
  | k + 1 => by
    obtain ⟨ih1, ih2⟩ := mangleLayer_congr m m' hmg hrc k
    have hrt : recurseType k m = recurseType k m' := funext ih2
    exact ⟨fun fs => by simp only [mangleLayer, hmg, hrt], fun ⟨h, t⟩ => by simp only [recurseType, hrc, ih1]⟩

theorem translate_toks (fuel : Nat) (toks toks' : TokTable) (fs : List FT) :
    translate fuel (envChain fuel toks) fs = translate fuel (envChain fuel toks') fs := by
  have key := (mangleLayer_congr (stringCastMangler (parseString toks)) (stringCastMangler (parseString toks'))
    rfl rfl fuel).1
  rw [envChain_eq, envChain_eq]
  simp only [translate, key]

/-- the exclusions are `okField`'s; `_fuel` is kept for the signature only -/
def SupportedCfg (_fuel : Nat) (fs : List FT) : Bool :=
  fs.all (fun f => okTop f.2)

theorem envField_sat (pfx : String) (lookup : String → Option String) (f : FT) :
    Sat IsEnvVal (envField pfx lookup f) := by
  unfold envField
  split
  · trivial
  · trivial
  · simp only
    split
    · exact .inr ⟨_, rfl⟩
    · exact .inl rfl

theorem reverse_cons (fuel : Nat) (m : Mangler) (ms : List Mangler) (fs : List FT) (vals : List Val) :
    reverse fuel (m :: ms) fs vals =
      (mangleLayer fuel m fs).bind fun fs' => (reverse fuel ms fs' vals).bind (unmangleLayer fuel m fs) := by
  simp only [reverse, layers]
  cases mangleLayer fuel m fs with
  | ok fs' =>
    simp only [Outcome.bind]
    cases layers fuel ms fs' with
    | ok r => simp only [List.foldr_cons]; cases List.foldr _ _ r <;> rfl
    | err c => rfl
    | panic c => rfl
  | err c => rfl
  | panic c => rfl

theorem reverse_nil (fuel : Nat) (fs : List FT) (vals : List Val) : reverse fuel [] fs vals = .ok vals := rfl

theorem envChain_total (fuel : Nat) (toks : TokTable) : ∀ m ∈ envChain fuel toks, MangleTotal m :=
  envChain_eq fuel toks ▸ chainOfSpecs_mangleTotal fuel _ _ _ (envChain_spec fuel toks)

theorem envValue_noPanic (fuel : Nat) (toks : TokTable) (pfx : String) (fs : List FT)
    (lookup : String → Option String) (h : SupportedCfg fuel fs = true) :
    NoPanic (envValue fuel (envChain fuel toks) pfx fs lookup) := by
  have ok0 : ∀ f ∈ fs, okTop f.2 = true := by simpa only [SupportedCfg, List.all_eq_true] using h
  rw [envValue_eq]
  cases ht : translate fuel (envChain fuel toks) fs with
  | err c => exact noPanic_err c
  | panic c => exact absurd ht (translate_noPanic fuel _ (envChain_total fuel toks) fs c)
  | ok tfs =>
    simp only
    have hvals := sat_mapM' (R := fun _ v => IsEnvVal v) fun f (_ : f ∈ tfs) => envField_sat pfx lookup f
    cases hv : mapM' (envField pfx lookup) tfs with
    | err c => exact noPanic_err c
    | panic c => exact absurd hv (hvals.noPanic c)
    | ok vals =>
      simp only
      rw [envChain_eq] at ht ⊢
      obtain ⟨L1, h0, ht⟩ := translate_cons_ok ht
      obtain ⟨L2, h1, ht⟩ := translate_cons_ok ht
      obtain ⟨L3, h2, ht⟩ := translate_cons_ok ht
      obtain ⟨L4, h3, ht⟩ := translate_cons_ok ht
      obtain ⟨L5, h4, ht⟩ := translate_cons_ok ht
      cases ht
      have ok1 := alias_fwd _ h0 ok0
      have ok2 := flatten_fwd _ _ h1 ok1
      have ok3 := passThru_fwd (passThru_tagReformat _ _ _) h2 ok2
      simp only [reverse_cons, reverse_nil, h0, h1, h2, h3, h4, ok_bind]
      exact (((((stringCast_layer toks h4 (hvals.of_ok hv)).bind
        fun _ => passThru_layer (passThru_tagCopy _ _) h3 ok3).bind
        fun _ => passThru_layer (passThru_tagReformat _ _ _) h2 ok2).bind
        fun _ => flatten_layer _ _ h1 ok1).bind
        fun _ => alias_layer _ h0).noPanic

/-! ### concrete evaluation: a kernel-evaluable copy of `populate`

A concrete configuration is evaluated after `rw [envChain_eq, flattenManglerK_eq]` by `decide` or `rfl` with smart
unfolding off (through the `_sunfold` definitions the evaluation of the fuel-recursive model functions takes more
than twice the work). -/

def fieldsK (pop : Ty → List Val → Outcome (Val × List Val × Bool)) :
    Nat → List FT → List Val → List Val → Bool → Outcome (List Val × List Val × Bool)
  | 0, _, _, _, _ => .err "fuel"
  | _ + 1, [], vals, acc, any => .ok (acc, vals, any)
  | fl + 1, (_, nt) :: rest, vals, acc, any =>
    match stripPtrs nt with
    | .struct _ =>
      match pop nt vals with
      | .ok (v, vals', a) => fieldsK pop fl rest vals' (acc ++ [v]) (any || a)
      | .err c => .err c
      | .panic c => .panic c
    | _ =>
      match vals with
      | [] => .panic "index out of range"
      | v :: vals' => fieldsK pop fl rest vals' (acc ++ [v]) (any || !v.isNil)

/-- `populate` by structural recursion on the fuel: the model's definition is compiled by well-founded recursion, which
the kernel does not evaluate -/
def populateK : Nat → Ty → List Val → Outcome (Val × List Val × Bool)
  | 0, _, _ => .err "fuel"
  | fuel + 1, t, vals =>
    match stripPtrs t with
    | .struct ifs =>
      match fieldsK (populateK fuel) (ifs.toList.length + 1) ifs.toList vals [] false with
      | .ok (fvs, vals', any) =>
        if any then .ok (wrapPtrs (ptrDepth t) (.struct fvs), vals', true)
        else .ok (.nilv, vals', false)
      | .err c => .err c
      | .panic c => .panic c
    | _ =>
      match vals with
      | [] => .panic "index out of range"
      | v :: vals' => .ok (v, vals', !v.isNil)

theorem fieldsK_eq (fuel : Nat) (ih : ∀ t vals, populate fuel t vals = populateK fuel t vals) :
    ∀ (fs : List FT) (fl : Nat) (vals acc : List Val) (any : Bool),
      populate.fields fuel fl fs vals acc any = fieldsK (populateK fuel) fl fs vals acc any
  | _, 0, _, _, _ => fields_zero _ _ _ _ _
  | [], _ + 1, _, _, _ => fields_nil _ _ _ _ _
  | (h, nt) :: fs, fl + 1, vals, acc, any => by
    cases hs : stripPtrs nt with
    | struct ifs =>
      rw [fields_step_struct fuel fl (h, nt) fs vals acc any hs, ih]
      simp only [fieldsK, hs]
      cases populateK fuel nt vals with
      | ok x => exact fieldsK_eq fuel ih fs fl _ _ _
      | err c => rfl
      | panic c => rfl
    | _ =>
      rw [fields_step_leaf fuel fl (h, nt) fs vals acc any fun ifs h' => nomatch hs.symm.trans h']
      simp only [fieldsK, hs]
      cases vals with
      | nil => rfl
      | cons v vs => exact fieldsK_eq fuel ih fs fl _ _ _

theorem populateK_eq : ∀ (fuel : Nat) (t : Ty) (vals : List Val), populate fuel t vals = populateK fuel t vals
  | 0, t, vals => populate_zero t vals
  | fuel + 1, t, vals => by
    cases hs : stripPtrs t with
    | struct ifs =>
      rw [populate_struct hs, fieldsK_eq fuel (populateK_eq fuel)]
      simp only [populateK, hs]
      rfl
    | _ =>
      rw [populate_leaf fun ifs h' => nomatch hs.symm.trans h']
      simp only [populateK, hs]
      rfl


def flattenUnmangleK (fuel : Nat) (_ : Hdr) (t : Ty) (fvs : List (FT × Val)) : Outcome Val :=
  match populateK fuel t (fvs.map (·.2)) with
  | .ok (v, rest, _) => if rest.isEmpty then .ok v else .err "number of input values not equal to number of struct fields"
  | .err c => .err c
  | .panic c => .panic c

def flattenManglerK (cfg : FlattenCfg) (fuel : Nat) : Mangler :=
  { mangle := flattenMangle cfg fuel, unmangle := flattenUnmangleK fuel, recurse := false }

theorem flattenManglerK_eq (cfg : FlattenCfg) (fuel : Nat) : flattenMangler cfg fuel = flattenManglerK cfg fuel := by
  have : flattenUnmangle fuel = flattenUnmangleK fuel := by
    funext h t fvs
    simp only [flattenUnmangle, flattenUnmangleK, populateK_eq]
    rfl
  simp only [flattenMangler, flattenManglerK, this]

def cxToks : TokTable := fun _ => ([Parse.Tok.scanErr], [Parse.Tok.scanErr])
def cxInt : Ty := .basic (.int .int) false

/-- `P *struct{ X struct{ A *int } }` -/
def cxValueStruct : List FT :=
  [(⟨"P", [], false⟩, .ptr (.struct (Fields.ofList
    [(⟨"X", [], false⟩, .struct (Fields.ofList [(⟨"A", [], false⟩, .ptr cxInt)]))])))]

/-- `P *struct{ B *int; X struct{ A *int } }` -/
def cxValueStructSibling : List FT :=
  [(⟨"P", [], false⟩, .ptr (.struct (Fields.ofList
    [(⟨"B", [], false⟩, .ptr cxInt),
     (⟨"X", [], false⟩, .struct (Fields.ofList [(⟨"A", [], false⟩, .ptr cxInt)]))])))]

/-- `P **struct{ A int }`: Pointerify stops at the user's pointer and does not wrap `A` -/
def cxUnwrappedLeaf : List FT :=
  [(⟨"P", [], false⟩, .ptr (.ptr (.struct (Fields.ofList [(⟨"A", [], false⟩, cxInt)]))))]

/-- `A *int` tagged `dials:"_"`: the reformatted tag is empty -/
def cxEmptyTag : List FT := [(⟨"A", [("dials", "_")], false⟩, .ptr cxInt)]

def cxEmptyEnvTag : List FT := [(⟨"A", [("dialsenv", "")], false⟩, .ptr cxInt)]

/-- `P **struct{ R [2]struct{ A *int } }` -/
def cxArrayOfStructs : List FT :=
  [(⟨"P", [], false⟩, .ptr (.ptr (.struct (Fields.ofList
    [(⟨"R", [], false⟩, .array 2 (.struct (Fields.ofList [(⟨"A", [], false⟩, .ptr cxInt)])))]))))]

def okCfg : List FT :=
  [(⟨"P", [], false⟩, .ptr (.struct (Fields.ofList
      [(⟨"Q", [], false⟩, .ptr (.struct (Fields.ofList [(⟨"A", [], false⟩, .ptr cxInt)]))),
       (⟨"N", [], false⟩, .ptr (.basic (.int .i64) true)),
       (⟨"S", [], false⟩, .slice (.basic .str false)),
       (⟨"M", [], false⟩, .map (.basic .str false) (.basic .str false)),
       (⟨"PP", [], false⟩, .ptr (.ptr (.basic .bool false)))]))),
   (⟨"T", [("dials", "custom_name")], false⟩, .ptr cxInt),
   (⟨"U", [("dialsenvalias", "OLD_U")], false⟩, .ptr (.basic .str false))]

set_option maxRecDepth 100000 in
example : SupportedCfg 200 okCfg = true := by decide

set_option maxRecDepth 100000 in
example : envNames 200 (envChain 200 cxToks) "" okCfg =
    .ok ["P_Q_A", "P_N", "P_S", "P_M", "P_PP", "CUSTOM_NAME", "U", "OLD_U"] := by
  rw [envChain_eq]
  set_option smartUnfolding false in decide

set_option maxRecDepth 100000 in
example : (envValue 200 (envChain 200 cxToks) "" okCfg
    (fun s => if s = "P_Q_A" then some "7" else if s = "OLD_U" then some "x" else none)).isOk = true := by
  rw [envChain_eq, flattenManglerK_eq]
  set_option smartUnfolding false in decide

set_option maxRecDepth 100000 in
/-- with nothing set the string-cast mangler's `hasElemTy` guard is not reached: a value, not an error -/
example : (envValue 64 (envChain 64 cxToks) "" cxUnwrappedLeaf (fun _ => none)).isOk = true := by
  rw [envChain_eq, flattenManglerK_eq]
  set_option smartUnfolding false in decide

end Dials.Total
