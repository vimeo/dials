/-
The simp set `ez_exec`: the definitions of the ez script interpreter (Model/Ez.lean) and of the runtime
model's step functions, unfolded together when the script is executed on symbolic data (Lemmas/EzExec.lean).
-/
import Lean.Meta.Tactic.Simp.RegisterCommand

register_simp_attr ez_exec
