/-
Lemmas for Props/C01.lean.  What one layer must achieve at a field is `Merged` (per path: configuration leaves,
skipped fields, struct pointers), field-wise `MergedS`; `fieldMerge` / `structMerge` establish it for `overlayField` /
`overlayStruct` by recursion on the type, from the equations of `overlayField` on the shapes of well-typed values;
`compose_ind` carries a fact about one layer along `compose`.
-/
import DialsModel.Model.OverlaySpec

namespace Dials.Overlay

mutual
theorem Ty.beq_iff : ∀ a b : Ty, Ty.beq a b = true ↔ a = b
  | .scalar _, b | .slice _, b | .map _, b | .tu _, b | .chan, b | .func, b => by cases b <;> simp [Ty.beq]
  | .ptr e, b => by cases b <;> simp [Ty.beq, Ty.beq_iff e]
  | .struct fs, b => by cases b <;> simp [Ty.beq, Fields.beq_iff fs]
theorem Fields.beq_iff : ∀ a b : Fields, Fields.beq a b = true ↔ a = b
  | .nil, b => by cases b <;> simp [Fields.beq]
  | .cons k t r, b => by cases b <;> simp [Fields.beq, Ty.beq_iff t, Fields.beq_iff r, and_assoc]
end

instance : LawfulBEq Ty where
  rfl := (Ty.beq_iff _ _).2 rfl
  eq_of_beq := (Ty.beq_iff _ _).1

theorem hasTy_ty {v : Val} {t : Ty} (h : v.HasTy t = true) : v.ty = t := by
  cases v with
  | scalar n x => cases t <;> first | cases h | exact congrArg Ty.scalar (eq_of_beq h)
  | tuv n x => cases t <;> first | cases h | exact congrArg Ty.tu (eq_of_beq h)
  | coll t' c => exact eq_of_beq (Bool.and_eq_true_iff.1 h).2
  | «opaque» t' x => exact eq_of_beq (Bool.and_eq_true_iff.1 h).2
  | ptr e p =>
    cases t <;> cases p <;> first | cases h | exact congrArg Ty.ptr (eq_of_beq h) |
      exact congrArg Ty.ptr (eq_of_beq (Bool.and_eq_true_iff.1 h).1)
  | struct fs vs =>
    cases t <;> first | cases h | exact congrArg Ty.struct ((Fields.beq_iff _ _).1 (Bool.and_eq_true_iff.1 h).1)

theorem hasTy_scalar {v : Val} {n : Nat} (h : v.HasTy (.scalar n) = true) : ∃ x, v = .scalar n x := by
  have := hasTy_ty h
  cases v <;> cases this <;> first | exact ⟨_, rfl⟩ | cases h

theorem hasTy_tu {v : Val} {n : Nat} (h : v.HasTy (.tu n) = true) : ∃ x, v = .tuv n x := by
  have := hasTy_ty h
  cases v <;> cases this <;> first | exact ⟨_, rfl⟩ | cases h

theorem hasTy_coll {v : Val} {t : Ty} (h : v.HasTy t = true) (ht : t.isColl = true) : ∃ c, v = .coll t c := by
  have := hasTy_ty h
  cases t <;> cases ht <;> cases v <;> cases this <;> first | exact ⟨_, rfl⟩ | cases h

theorem hasTy_ptr {v : Val} {e : Ty} (h : v.HasTy (.ptr e) = true) :
    v = .ptr e none ∨ ∃ w, v = .ptr e (some w) ∧ w.HasTy e = true := by
  have := hasTy_ty h
  cases v <;> cases this <;> try cases h
  rename_i p
  cases p with
  | none => exact .inl rfl
  | some w => exact .inr ⟨w, rfl, (Bool.and_eq_true_iff.1 h).2⟩

theorem hasTy_struct {v : Val} {fs : Fields} (h : v.HasTy (.struct fs) = true) :
    ∃ vs, v = .struct fs vs ∧ vs.HasTys fs = true := by
  have := hasTy_ty h
  cases v <;> cases this <;> try cases h
  exact ⟨_, rfl, (Bool.and_eq_true_iff.1 h).2⟩

theorem hasTy_struct_mk {fs : Fields} {vs : Vals} (h : vs.HasTys fs = true) : (Val.struct fs vs).HasTy (.struct fs) = true :=
  Bool.and_eq_true_iff.2 ⟨(Fields.beq_iff fs fs).2 rfl, h⟩

theorem hasTys_nil {vs : Vals} (h : vs.HasTys .nil = true) : vs = .nil := by
  cases vs with
  | nil => rfl
  | cons => cases h

theorem hasTys_cons {vs : Vals} {k t r} (h : vs.HasTys (.cons k t r) = true) :
    ∃ v vs', vs = .cons v vs' ∧ v.HasTy t = true ∧ vs'.HasTys r = true := by
  cases vs with
  | nil => cases h
  | cons v vs' => exact ⟨v, vs', rfl, Bool.and_eq_true_iff.1 h⟩

mutual
theorem zero_hasTy : ∀ t : Ty, (zero t).HasTy t = true
  | .scalar _ | .tu _ => by simp [zero, Val.HasTy]
  | .slice _ | .map _ => by simp [zero, Val.HasTy, Ty.isColl]
  | .chan | .func => by simp [zero, Val.HasTy, Ty.isChanFunc]
  | .ptr e => by simp [zero, Val.HasTy]
  | .struct fs => hasTy_struct_mk (zeros_hasTys fs)
theorem zeros_hasTys : ∀ fs : Fields, (zeros fs).HasTys fs = true
  | .nil => rfl
  | .cons _ t r => Bool.and_eq_true_iff.2 ⟨zero_hasTy t, zeros_hasTys r⟩
end

theorem ptrifyField_chanFunc {t : Ty} (h : t.isChanFunc = true) : ptrifyField t = none := by
  cases t with
  | chan | func => simp [ptrifyField, Facts.ptrifyDropsChanFunc]
  | _ => cases h

theorem ptrifyField_kept {t : Ty} (h : t.isChanFunc = false) :
    ∃ t', ptrifyField t = some t' ∧ (zero t').isNil = true ∧ t'.isChanFunc = false := by
  cases t with
  | ptr e => cases e <;> exact ⟨_, rfl, rfl, rfl⟩
  | chan | func => cases h
  | _ => exact ⟨_, rfl, rfl, rfl⟩

theorem ptrifyFields_cons_skipped {k t} (r : Fields) (h : skippedField k t = true) :
    ptrifyFields (.cons k t r) = ptrifyFields r := by
  rw [ptrifyFields]
  rcases Bool.or_eq_true_iff.1 h with h | h
  · rw [if_pos h]
  · simp [ptrifyField_chanFunc h]

theorem ptrifyFields_cons_kept {k t} (r : Fields) (h : skippedField k t = false) :
    ∃ t', ptrifyField t = some t' ∧ ptrifyFields (.cons k t r) = .cons k t' (ptrifyFields r) ∧
      (zero t').isNil = true ∧ t'.isChanFunc = false := by
  obtain ⟨h1, h2⟩ := Bool.or_eq_false_iff.1 h
  obtain ⟨t', ht', hz⟩ := ptrifyField_kept h2
  exact ⟨t', ht', by rw [ptrifyFields, h1, ht']; rfl, hz⟩

theorem alignment : ∀ (fs : Fields) (i : Nat) (k : FieldKind) (t : Ty), fs.get? i = some (k, t) →
    skippedField k t = false →
    ∃ t', ptrifyField t = some t' ∧ (ptrifyFields fs).get? (ovIndex fs i) = some (k, t')
  | .nil, i, k, t, h, _ => by cases h
  | .cons k0 t0 r, 0, k, t, h, hk => by
    cases h
    obtain ⟨t', ht', hf, _⟩ := ptrifyFields_cons_kept r hk
    exact ⟨t', ht', by rw [hf]; rfl⟩
  | .cons k0 t0 r, n + 1, k, t, h, hk => by
    obtain ⟨t', ht', hg⟩ := alignment r n k t h hk
    refine ⟨t', ht', ?_⟩
    cases hs : skippedField k0 t0 with
    | true => rw [ptrifyFields_cons_skipped r hs, ovIndex, hs, if_pos rfl, Nat.zero_add]; exact hg
    | false =>
      obtain ⟨t0', _, hf, _⟩ := ptrifyFields_cons_kept r hs
      rw [hf, ovIndex, hs, if_neg Bool.false_ne_true, Nat.add_comm]; exact hg

theorem overlayField_nil (s : Bool) (b o : Val) (h : o.isNil = true) : overlayField s b o = .ok b := by
  rw [overlayField.eq_def, if_pos]
  cases o <;> first | exact h | cases h

theorem overlayField_scalar (n x : Nat) (y : Nat) (e : Ty) :
    overlayField true (.scalar n x) (.ptr e (some (.scalar n y))) = .ok (.scalar n y) := by
  rw [overlayField.eq_def]; simp [Val.isNilable, Val.isNil, setVal, Val.ty]

theorem overlayField_tu (n x : Nat) (y : Nat) (e : Ty) :
    overlayField true (.tuv n x) (.ptr e (some (.tuv n y))) = .ok (.tuv n y) := by
  rw [overlayField.eq_def]; simp [Val.isNilable, Val.isNil, setVal, Val.ty]

theorem overlayField_coll (t : Ty) (c : Option Nat) (c' : Nat) :
    overlayField true (.coll t c) (.coll t (some c')) = .ok (.coll t (some c')) := by
  rw [overlayField.eq_def]; simp [Val.isNilable, Val.isNil, setVal, Val.ty]

theorem overlayField_ptr_nonstruct (e : Ty) (he : e.isStruct = false) (bp : Option Val) (ov : Val) :
    overlayField true (.ptr e bp) (.ptr e (some ov)) = .ok (.ptr e (some ov)) := by
  rw [overlayField.eq_def]
  cases bp with
  | none => simp [Val.isNilable, Val.isNil, setVal, Val.ty, tyElem]
  | some b =>
    cases e with
    | struct => cases he
    | _ => simp [Val.isNilable, Val.isNil, setVal, Val.ty, Ty.isTU, Facts.overlayReplacesNonStructPtr]

theorem overlayField_struct {bfs : Fields} {bvs ovs vs : Vals} (e : Ty) (fs' : Fields)
    (h : overlayStruct bfs bvs ovs = .ok vs) :
    overlayField true (.struct bfs bvs) (.ptr e (some (.struct fs' ovs))) = .ok (.struct bfs vs) := by
  rw [overlayField.eq_def]; simp [Val.isNilable, Val.isNil, h]

theorem overlayField_ptrstruct_some {bfs : Fields} {bvs ovs vs : Vals} (fs0 : Fields) (e : Ty) (fs' : Fields)
    (h : overlayStruct bfs bvs ovs = .ok vs) :
    overlayField true (.ptr (.struct bfs) (some (.struct fs0 bvs))) (.ptr e (some (.struct fs' ovs)))
      = .ok (.ptr (.struct bfs) (some (.struct bfs vs))) := by
  rw [overlayField.eq_def]; simp [Val.isNilable, Val.isNil, Ty.isTU, h]

theorem overlayField_ptrstruct_none_eq (bfs : Fields) (fs' : Fields) (ovs : Vals) :
    overlayField true (.ptr (.struct bfs) none) (.ptr (.struct bfs) (some (.struct fs' ovs))) =
      .ok (.ptr (.struct bfs) (some (.struct fs' ovs))) := by
  rw [overlayField.eq_def]; simp [Val.isNilable, Val.isNil, Val.ty, tyElem, setVal]

theorem overlayField_ptrstruct_none_ne {bfs pfs : Fields} {ovs vs : Vals} (hne : bfs ≠ pfs) (fs' : Fields)
    (h : overlayStruct bfs (zeros bfs) ovs = .ok vs) :
    overlayField true (.ptr (.struct bfs) none) (.ptr (.struct pfs) (some (.struct fs' ovs)))
      = .ok (.ptr (.struct bfs) (some (.struct bfs vs))) := by
  rw [overlayField.eq_def]; simp [Val.isNilable, Val.isNil, Val.ty, tyElem, hne, h]

theorem overlayStruct_cons_skipped {k t} (hs : skippedField k t = true) (r : Fields) (b : Val)
    (bs os vs : Vals) (h : overlayStruct r bs os = .ok vs) :
    overlayStruct (.cons k t r) (.cons b bs) os = .ok (.cons b vs) := by
  rw [overlayStruct.eq_def]
  simp only [skippedField] at hs
  simp [Facts.overlayUsesOmitField, Facts.overlaySkipsChanFunc, hs, h]

theorem overlayStruct_cons_kept {k t} (hs : skippedField k t = false) (r : Fields) (b o b' : Val)
    (bs os vs : Vals) (h1 : overlayField true b o = .ok b') (h : overlayStruct r bs os = .ok vs) :
    overlayStruct (.cons k t r) (.cons b bs) (.cons o os) = .ok (.cons b' vs) := by
  rw [overlayStruct.eq_def]
  have hk : k = .normal := by
    cases k <;> first | rfl | cases (Bool.or_eq_false_iff.1 hs).1
  subst hk
  simp only [skippedField] at hs
  simp [Facts.overlayUsesOmitField, Facts.overlaySkipsChanFunc, hs, h, h1,
    show (FieldKind.normal != .unexported) = true from rfl]

theorem zeros_get : ∀ (fs : Fields) (i : Nat) (k : FieldKind) (ft : Ty), fs.get? i = some (k, ft) →
    (zeros fs).get? i = some (zero ft)
  | .nil, _, _, _, h => by cases h
  | .cons k0 t0 r, 0, k, ft, h => by cases h; rfl
  | .cons k0 t0 r, n + 1, k, ft, h => zeros_get r n k ft h

/-- `readB` reads zeros below a nil struct pointer -/
def baseVals (fs : Fields) (v : Val) : Vals :=
  match v.structVals with
  | some vs => vs
  | none => zeros fs

theorem readB_cons {t : Ty} {fs : Fields} {i : Nat} {k : FieldKind} {ft : Ty}
    (ht : t.structFields = some fs) (hg : fs.get? i = some (k, ft)) (v fv : Val)
    (hfv : (baseVals fs v).get? i = some fv) (p : List Nat) :
    readB t v (i :: p) = readB ft fv p := by
  simp only [readB, ht, hg]
  cases hv : v.structVals with
  | none =>
    rw [baseVals, hv, zeros_get fs i k ft hg] at hfv
    cases hfv; rfl
  | some vs =>
    rw [baseVals, hv] at hfv
    simp only [hfv]

theorem readO_cons {t : Ty} {fs : Fields} {i : Nat} {k : FieldKind} {ft : Ty}
    (ht : t.structFields = some fs) (hg : fs.get? i = some (k, ft)) (hk : skippedField k ft = false)
    (o : Val) (ovs : Vals) (ho : o.structVals = some ovs) (ov : Val)
    (hov : ovs.get? (ovIndex fs i) = some ov) (p : List Nat) :
    readO t o (i :: p) = readO ft ov p := by
  simp [readO, ht, hg, hk, ho, hov]

theorem presentO_cons {t : Ty} {fs : Fields} {i : Nat} {k : FieldKind} {ft : Ty}
    (ht : t.structFields = some fs) (hg : fs.get? i = some (k, ft)) (hk : skippedField k ft = false)
    (o : Val) (ovs : Vals) (ho : o.structVals = some ovs) (ov : Val)
    (hov : ovs.get? (ovIndex fs i) = some ov) (p : List Nat) :
    presentO t o (i :: p) = presentO ft ov p := by
  simp [presentO, ht, hg, hk, ho, hov]

theorem structPtrPath_cons {t : Ty} {fs : Fields} {i : Nat} {k : FieldKind} {ft : Ty}
    (ht : t.structFields = some fs) (hg : fs.get? i = some (k, ft)) (p : List Nat) :
    StructPtrPath t (i :: p) = (!skippedField k ft && StructPtrPath ft p) := by
  simp [StructPtrPath, ht, hg]

theorem leafPath_cons {t : Ty} {fs : Fields} {i : Nat} {k : FieldKind} {ft : Ty}
    (ht : t.structFields = some fs) (hg : fs.get? i = some (k, ft)) (p : List Nat) :
    LeafPath t (i :: p) = (!skippedField k ft && LeafPath ft p) := by
  simp [LeafPath, ht, hg]

theorem skippedPath_cons {t : Ty} {fs : Fields} {i : Nat} {k : FieldKind} {ft : Ty}
    (ht : t.structFields = some fs) (hg : fs.get? i = some (k, ft)) (p : List Nat) :
    SkippedPath t (i :: p) =
      (if p = [] then skippedField k ft else (!skippedField k ft && SkippedPath ft p)) := by
  cases p <;> simp [SkippedPath, ht, hg]

theorem zero_structVals_none_of_ptr (e : Ty) : (zero (.ptr e)).structVals = none := by
  simp [zero, Val.structVals]

theorem presentB_zero : ∀ (p : List Nat) (t : Ty), StructPtrPath t p = true → presentB t (zero t) p = false
  | [], t, h => by
    cases t with
    | ptr e => rfl
    | _ => cases h
  | i :: p, t, h => by
    cases t with
    | struct fs =>
      cases hg : fs.get? i with
      | none => simp [presentB, Ty.structFields, zero, Val.structVals, hg]
      | some kf =>
        simp only [StructPtrPath, Ty.structFields, hg, Bool.and_eq_true] at h
        simp only [presentB, Ty.structFields, zero, Val.structVals, hg, zeros_get _ i kf.1 kf.2 hg]
        exact presentB_zero p kf.2 h.2
    | ptr e => simp [presentB, zero, Val.structVals]
    | _ => cases h

theorem presentB_cons {t : Ty} {fs : Fields} {i : Nat} {k : FieldKind} {ft : Ty}
    (ht : t.structFields = some fs) (hg : fs.get? i = some (k, ft)) (v fv : Val)
    (hfv : (baseVals fs v).get? i = some fv) (p : List Nat) (hp : StructPtrPath ft p = true) :
    presentB t v (i :: p) = presentB ft fv p := by
  simp only [presentB, ht]
  cases hv : v.structVals with
  | none =>
    rw [baseVals, hv, zeros_get fs i k ft hg] at hfv
    cases hfv
    exact (presentB_zero p ft hp).symm
  | some vs =>
    rw [baseVals, hv] at hfv
    simp only [hfv, hg]

def Merged (t : Ty) (b o b' : Val) : Prop :=
  b'.HasTy t = true ∧
  (∀ p, LeafPath t p = true →
    readB t b' p = (match readO t o p with | some x => some x | none => readB t b p)) ∧
  (∀ p, SkippedPath t p = true → readB t b' p = readB t b p) ∧
  (∀ p, StructPtrPath t p = true → presentB t b' p = (presentB t b p || presentO t o p))

def MergedS (fs : Fields) (bvs ovs vs : Vals) : Prop :=
  vs.HasTys fs = true ∧
  ∀ i k ft, fs.get? i = some (k, ft) →
    ∃ b b', bvs.get? i = some b ∧ vs.get? i = some b' ∧
      (skippedField k ft = true → b' = b) ∧
      (skippedField k ft = false → ∃ o, ovs.get? (ovIndex fs i) = some o ∧ Merged ft b o b')

theorem skippedPath_none {t : Ty} (ht : t.structFields = none) : ∀ p, SkippedPath t p = false
  | [] => rfl
  | [i] => by simp [SkippedPath, ht]
  | i :: j :: p => by simp [SkippedPath, ht]

theorem structPtrPath_none {t : Ty} (ht : t.structFields = none) : ∀ p, StructPtrPath t p = false
  | [] => by
    cases t with
    | ptr e => cases e <;> first | rfl | cases ht
    | _ => rfl
  | i :: p => by simp [StructPtrPath, ht]

theorem merged_leaf {t : Ty} (ht : t.structFields = none) (b o b' : Val) (hb' : b'.HasTy t = true)
    (h : some b' = (match readO t o [] with | some x => some x | none => some b)) :
    Merged t b o b' := by
  refine ⟨hb', fun p hp => ?_, fun p hp => ?_, fun p hp => ?_⟩
  · cases p with
    | nil => exact h
    | cons i p => simp [LeafPath, ht] at hp
  · rw [skippedPath_none ht] at hp; cases hp
  · rw [structPtrPath_none ht] at hp; cases hp

theorem structVals_not_nil {v : Val} {vs : Vals} (h : v.structVals = some vs) : v.isNil = false := by
  cases v with
  | ptr e p => cases p <;> first | rfl | cases h
  | coll t c => cases h
  | _ => rfl

theorem merged_nil {t : Ty} {fs : Fields} (ht : t.structFields = some fs) (b : Val) (hb : b.HasTy t = true)
    (e : Ty) : Merged t b (.ptr e none) b := by
  refine ⟨hb, fun p _ => ?_, fun p _ => rfl, fun p _ => ?_⟩
  · suffices h : readO t (.ptr e none) p = none by rw [h]
    cases p with
    | nil =>
      cases t with
      | ptr e' => cases e' <;> first | rfl | cases ht
      | struct => rfl
      | _ => cases ht
    | cons i p =>
      simp only [readO, ht, Val.structVals]
      cases fs.get? i with
      | none => rfl
      | some kf => simp
  · suffices h : presentO t (.ptr e none) p = false by rw [h, Bool.or_false]
    cases p with
    | nil => rfl
    | cons i p => simp only [presentO, Val.structVals]; cases t.structFields <;> rfl

theorem merged_of_struct {t : Ty} {fs : Fields} (ht : t.structFields = some fs) (b o b' : Val)
    {ovs vs : Vals} (hb' : vs.HasTys fs = true → b'.HasTy t = true) (hvs : b'.structVals = some vs)
    (hovs : o.structVals = some ovs) (hm : MergedS fs (baseVals fs b) ovs vs) : Merged t b o b' := by
  suffices h : ∀ p,
      (LeafPath t p = true →
        readB t b' p = (match readO t o p with | some x => some x | none => readB t b p)) ∧
      (SkippedPath t p = true → readB t b' p = readB t b p) ∧
      (StructPtrPath t p = true → presentB t b' p = (presentB t b p || presentO t o p)) from
    ⟨hb' hm.1, fun p => (h p).1, fun p => (h p).2.1, fun p => (h p).2.2⟩
  intro p
  cases p with
  | nil =>
    refine ⟨fun hp => ?_, fun hp => ?_, fun _ => ?_⟩
    · simp [LeafPath, ht] at hp
    · cases hp
    · simp [presentB, presentO, structVals_not_nil hvs, structVals_not_nil hovs]
  | cons i q =>
    cases hg : fs.get? i with
    | none =>
      refine ⟨fun hp => ?_, fun hp => ?_, fun hp => ?_⟩
      · simp [LeafPath, ht, hg] at hp
      · cases q <;> simp [SkippedPath, ht, hg] at hp
      · simp [StructPtrPath, ht, hg] at hp
    | some kf =>
      obtain ⟨k, ft⟩ := kf
      obtain ⟨bi, bi', h1, h2, h3, h4⟩ := hm.2 i k ft hg
      have h2' : (baseVals fs b').get? i = some bi' := by rw [baseVals, hvs]; exact h2
      rw [readB_cons ht hg b' bi' h2', readB_cons ht hg b bi h1]
      refine ⟨fun hp => ?_, fun hp => ?_, fun hp => ?_⟩
      · rw [leafPath_cons ht hg, Bool.and_eq_true, Bool.not_eq_true'] at hp
        obtain ⟨oi, h5, hmi⟩ := h4 hp.1
        rw [readO_cons ht hg hp.1 o ovs hovs oi h5]
        exact hmi.2.1 q hp.2
      · rw [skippedPath_cons ht hg] at hp
        by_cases hq : q = []
        · rw [if_pos hq] at hp
          rw [h3 hp]
        · rw [if_neg hq, Bool.and_eq_true, Bool.not_eq_true'] at hp
          obtain ⟨oi, _, hmi⟩ := h4 hp.1
          exact hmi.2.2.1 q hp.2
      · rw [structPtrPath_cons ht hg, Bool.and_eq_true, Bool.not_eq_true'] at hp
        obtain ⟨oi, h5, hmi⟩ := h4 hp.1
        rw [presentB_cons ht hg b' bi' h2' q hp.2, presentB_cons ht hg b bi h1 q hp.2,
          presentO_cons ht hg hp.1 o ovs hovs oi h5]
        exact hmi.2.2.2 q hp.2

theorem ptrifyFields_head {k t r} : ∀ fs, ptrifyFields fs = .cons k t r → skippedField k t = false
  | .cons k0 t0 r0, h => by
    cases hs : skippedField k0 t0 with
    | true => exact ptrifyFields_head r0 (ptrifyFields_cons_skipped r0 hs ▸ h)
    | false =>
      obtain ⟨t', _, hf, _, hc⟩ := ptrifyFields_cons_kept r0 hs
      cases hf ▸ h
      exact Bool.or_eq_false_iff.2 ⟨(Bool.or_eq_false_iff.1 hs).1, hc⟩

theorem ptrifyFields_fix_cons {k t r} (h : ptrifyFields (.cons k t r) = .cons k t r) :
    skippedField k t = false ∧ ptrifyField t = some t ∧ ptrifyFields r = r := by
  have hs := ptrifyFields_head _ h
  obtain ⟨t', ht', hf, _⟩ := ptrifyFields_cons_kept r hs
  obtain ⟨_, rfl, hr⟩ := Fields.cons.inj (hf ▸ h)
  exact ⟨hs, ht', hr⟩

theorem overlayField_zero_fix (t : Ty) (o : Val) (ht : ptrifyField t = some t) (ho : o.HasTy t = true) :
    overlayField true (zero t) o = .ok o := by
  cases t with
  | slice n | map n =>
    obtain ⟨c, rfl⟩ := hasTy_coll ho rfl
    cases c with
    | none => exact overlayField_nil _ _ _ rfl
    | some c => exact overlayField_coll _ _ _
  | ptr e =>
    rcases hasTy_ptr ho with rfl | ⟨w, rfl, hw⟩
    · exact overlayField_nil _ _ _ rfl
    · cases he : e.isStruct with
      | false => exact overlayField_ptr_nonstruct e he none w
      | true =>
        cases e <;> try cases he
        obtain ⟨ws, rfl, _⟩ := hasTy_struct hw
        exact overlayField_ptrstruct_none_eq _ _ _
  | _ => simp [ptrifyField, Facts.ptrifyDropsChanFunc] at ht

theorem overlayStruct_zeros_fix : ∀ (fs : Fields) (ovs : Vals), ptrifyFields fs = fs →
    ovs.HasTys fs = true → overlayStruct fs (zeros fs) ovs = .ok ovs
  | .nil, ovs, _, h => by rw [hasTys_nil h, overlayStruct.eq_def]
  | .cons k t r, ovs, hf, h => by
    obtain ⟨o, os, rfl, ho, hos⟩ := hasTys_cons h
    obtain ⟨hs, ht, hr⟩ := ptrifyFields_fix_cons hf
    exact overlayStruct_cons_kept hs r _ o o _ os os (overlayField_zero_fix t o ht ho)
      (overlayStruct_zeros_fix r os hr hos)

def StructMerge (fs : Fields) : Prop :=
  ∀ bvs ovs : Vals, bvs.HasTys fs = true → ovs.HasTys (ptrifyFields fs) = true →
    ∃ vs, overlayStruct fs bvs ovs = .ok vs ∧ MergedS fs bvs ovs vs

def FieldMerge (t : Ty) : Prop :=
  ∀ (t' : Ty) (b o : Val), ptrifyField t = some t' → b.HasTy t = true → o.HasTy t' = true →
    ∃ b', overlayField true b o = .ok b' ∧ Merged t b o b'

theorem fieldMerge_leaf (t : Ty) (ht : t.structFields = none) : FieldMerge t := by
  intro t' b o hp hb ho
  suffices h : ∃ b', overlayField true b o = .ok b' ∧ b'.HasTy t = true ∧
      some b' = (match readO t o [] with | some x => some x | none => some b) by
    obtain ⟨b', h1, h2, h3⟩ := h
    exact ⟨b', h1, merged_leaf ht b o b' h2 h3⟩
  cases t with
  | scalar n =>
    cases hp
    obtain ⟨x, rfl⟩ := hasTy_scalar hb
    rcases hasTy_ptr ho with rfl | ⟨w, rfl, hw⟩
    · exact ⟨_, overlayField_nil _ _ _ rfl, hb, rfl⟩
    · obtain ⟨y, rfl⟩ := hasTy_scalar hw
      exact ⟨_, overlayField_scalar _ _ _ _, hw, rfl⟩
  | tu n =>
    cases hp
    obtain ⟨x, rfl⟩ := hasTy_tu hb
    rcases hasTy_ptr ho with rfl | ⟨w, rfl, hw⟩
    · exact ⟨_, overlayField_nil _ _ _ rfl, hb, rfl⟩
    · obtain ⟨y, rfl⟩ := hasTy_tu hw
      exact ⟨_, overlayField_tu _ _ _ _, hw, rfl⟩
  | slice n | map n =>
    cases hp
    obtain ⟨x, rfl⟩ := hasTy_coll hb rfl
    obtain ⟨c, rfl⟩ := hasTy_coll ho rfl
    cases c with
    | none => exact ⟨_, overlayField_nil _ _ _ rfl, hb, rfl⟩
    | some c => exact ⟨_, overlayField_coll _ _ _, ho, rfl⟩
  | ptr e =>
    obtain ⟨he, rfl, hr⟩ : e.isStruct = false ∧ t' = .ptr e ∧
        ∀ o : Val, readO (.ptr e) o [] = if o.isNil then none else some o := by
      cases e with
      | struct => cases ht
      | _ => cases hp; exact ⟨rfl, rfl, fun _ => rfl⟩
    rcases hasTy_ptr ho with rfl | ⟨w, rfl, hw⟩
    · exact ⟨_, overlayField_nil _ _ _ rfl, hb, by rw [hr]; rfl⟩
    · obtain ⟨bp, rfl⟩ : ∃ bp, b = .ptr e bp := by
        rcases hasTy_ptr hb with rfl | ⟨bw, rfl, _⟩ <;> exact ⟨_, rfl⟩
      exact ⟨_, overlayField_ptr_nonstruct e he bp w, ho, by rw [hr]; rfl⟩
  | struct => cases ht
  | chan | func => simp [ptrifyField, Facts.ptrifyDropsChanFunc] at hp

theorem fieldMerge_struct (fs : Fields) (ih : StructMerge fs) : FieldMerge (.struct fs) := by
  intro t' b o ht hb ho
  cases ht
  obtain ⟨bvs, rfl, hbvs⟩ := hasTy_struct hb
  rcases hasTy_ptr ho with rfl | ⟨w, rfl, hw⟩
  · exact ⟨_, overlayField_nil _ _ _ rfl, merged_nil rfl _ hb _⟩
  · obtain ⟨ovs, rfl, hovs⟩ := hasTy_struct hw
    obtain ⟨vs, h1, h2⟩ := ih bvs ovs hbvs hovs
    exact ⟨_, overlayField_struct _ _ h1, merged_of_struct (fs := fs) rfl _ _ _ hasTy_struct_mk rfl rfl h2⟩

theorem fieldMerge_ptrstruct (fs : Fields) (ih : StructMerge fs) : FieldMerge (.ptr (.struct fs)) := by
  intro t' b o ht hb ho
  cases ht
  have hty : ∀ {vs : Vals}, vs.HasTys fs = true → (Val.ptr (.struct fs) (some (.struct fs vs))).HasTy (.ptr (.struct fs)) = true :=
    fun h => Bool.and_eq_true_iff.2 ⟨beq_self_eq_true _, hasTy_struct_mk h⟩
  rcases hasTy_ptr ho with rfl | ⟨w, rfl, hw⟩
  · exact ⟨_, overlayField_nil _ _ _ rfl, merged_nil rfl _ hb _⟩
  · obtain ⟨ovs, rfl, hovs⟩ := hasTy_struct hw
    rcases hasTy_ptr hb with rfl | ⟨bw, rfl, hbw⟩
    · obtain ⟨vs, h1, h2⟩ := ih (zeros fs) ovs (zeros_hasTys fs) hovs
      refine ⟨_, ?_, merged_of_struct (fs := fs) rfl _ _ _ hty rfl rfl h2⟩
      by_cases hfix : fs = ptrifyFields fs
      · -- the types coincide and the pointer is assigned: the same value, since merging into zeros gives `ovs`
        have h3 := overlayStruct_zeros_fix fs ovs hfix.symm (hfix ▸ hovs)
        cases h1.symm.trans h3
        rw [← hfix]
        exact overlayField_ptrstruct_none_eq _ _ _
      · exact overlayField_ptrstruct_none_ne hfix _ h1
    · obtain ⟨bvs, rfl, hbvs⟩ := hasTy_struct hbw
      obtain ⟨vs, h1, h2⟩ := ih bvs ovs hbvs hovs
      exact ⟨_, overlayField_ptrstruct_some _ _ _ h1, merged_of_struct (fs := fs) rfl _ _ _ hty rfl rfl h2⟩

theorem structMerge_cons (k : FieldKind) (t : Ty) (r : Fields) (iht : FieldMerge t)
    (ihr : StructMerge r) : StructMerge (.cons k t r) := by
  intro bvs ovs hb ho
  obtain ⟨b, bs, rfl, hbt, hbs⟩ := hasTys_cons hb
  cases hs : skippedField k t with
  | true =>
    rw [ptrifyFields_cons_skipped r hs] at ho
    obtain ⟨vs, h1, h2, h3⟩ := ihr bs ovs hbs ho
    refine ⟨.cons b vs, overlayStruct_cons_skipped hs r b bs ovs vs h1, Bool.and_eq_true_iff.2 ⟨hbt, h2⟩, ?_⟩
    intro i k' ft hg
    cases i with
    | zero => cases hg; exact ⟨b, b, rfl, rfl, fun _ => rfl, fun h => by rw [hs] at h; cases h⟩
    | succ n =>
      obtain ⟨bi, bi', g1, g2, g3, g4⟩ := h3 n k' ft hg
      refine ⟨bi, bi', g1, g2, g3, fun hk => ?_⟩
      rw [ovIndex, hs, if_pos rfl, Nat.zero_add]
      exact g4 hk
  | false =>
    obtain ⟨t', ht', hf, _⟩ := ptrifyFields_cons_kept r hs
    rw [hf] at ho
    obtain ⟨o, os, rfl, hot, hos⟩ := hasTys_cons ho
    obtain ⟨b', f1, f2⟩ := iht t' b o ht' hbt hot
    obtain ⟨vs, h1, h2, h3⟩ := ihr bs os hbs hos
    refine ⟨.cons b' vs, overlayStruct_cons_kept hs r b o b' bs os vs f1 h1, Bool.and_eq_true_iff.2 ⟨f2.1, h2⟩, ?_⟩
    intro i k' ft hg
    cases i with
    | zero => cases hg; exact ⟨b, b', rfl, rfl, fun h => (by rw [hs] at h; cases h), fun _ => ⟨o, rfl, f2⟩⟩
    | succ n =>
      obtain ⟨bi, bi', g1, g2, g3, g4⟩ := h3 n k' ft hg
      refine ⟨bi, bi', g1, g2, g3, fun hk => ?_⟩
      rw [ovIndex, hs, if_neg Bool.false_ne_true, Nat.add_comm]
      exact g4 hk

mutual
theorem fieldMerge : ∀ t : Ty, FieldMerge t
  | .struct fs => fieldMerge_struct fs (structMerge fs)
  | .ptr (.struct fs) => fieldMerge_ptrstruct fs (structMerge fs)
  | .scalar _ | .tu _ | .slice _ | .map _ | .chan | .func => fieldMerge_leaf _ rfl
  | .ptr (.scalar _) | .ptr (.tu _) | .ptr (.slice _) | .ptr (.map _) | .ptr .chan | .ptr .func | .ptr (.ptr _) =>
    fieldMerge_leaf _ rfl
theorem structMerge : ∀ fs : Fields, StructMerge fs
  | .nil => fun _ _ _ _ => ⟨.nil, by rw [overlayStruct.eq_def], rfl, nofun⟩
  | .cons k t r => structMerge_cons k t r (fieldMerge t) (structMerge r)
end

theorem overlayLayer_merge (fs : Fields) (d l : Val) (hd : d.HasTy (.struct fs) = true)
    (hl : IsLayer fs l = true) :
    ∃ d', overlayLayer d l = .ok d' ∧ Merged (.struct fs) d l d' := by
  obtain ⟨bvs, rfl, hbvs⟩ := hasTy_struct hd
  obtain ⟨ovs, hovs, hl'⟩ : ∃ ovs, ovs.HasTys (ptrifyFields fs) = true ∧
      (l = .struct (ptrifyFields fs) ovs ∨ l = .ptr (.struct (ptrifyFields fs)) (some (.struct (ptrifyFields fs) ovs))) := by
    rcases Bool.or_eq_true_iff.1 hl with hl | hl
    · obtain ⟨ovs, rfl, hovs⟩ := hasTy_struct hl
      exact ⟨ovs, hovs, .inl rfl⟩
    · rcases hasTy_ptr (Bool.and_eq_true_iff.1 hl).1 with rfl | ⟨w, rfl, hw⟩
      · cases (Bool.and_eq_true_iff.1 hl).2
      · obtain ⟨ovs, rfl, hovs⟩ := hasTy_struct hw
        exact ⟨ovs, hovs, .inr rfl⟩
  obtain ⟨vs, h1, h2⟩ := structMerge fs bvs ovs hbvs hovs
  refine ⟨.struct fs vs, ?_, ?_⟩
  · rcases hl' with rfl | rfl <;> simp [overlayLayer, h1]
  · rcases hl' with rfl | rfl <;>
      exact merged_of_struct (fs := fs) rfl _ _ _ hasTy_struct_mk rfl rfl h2

theorem compose_ind (fs : Fields) {Q : Val → List Val → Val → Prop} (nil : ∀ d, Q d [] d)
    (cons : ∀ d l d' ls r, Merged (.struct fs) d l d' → Q d' ls r → Q d (l :: ls) r) :
    ∀ (ls : List Val) (d : Val), d.HasTy (.struct fs) = true → (∀ l ∈ ls, IsLayer fs l = true) →
      ∃ r, compose d ls = .ok r ∧ r.HasTy (.struct fs) = true ∧ Q d ls r
  | [], d, hd, _ => ⟨d, rfl, hd, nil d⟩
  | l :: ls, d, hd, hls => by
    obtain ⟨d', h1, hm⟩ := overlayLayer_merge fs d l hd (hls l List.mem_cons_self)
    obtain ⟨r, g1, gty, gq⟩ :=
      compose_ind fs nil cons ls d' hm.1 fun l' hl' => hls l' (List.mem_cons_of_mem _ hl')
    exact ⟨r, by rw [compose, h1]; exact g1, gty, cons d l d' ls r hm gq⟩

theorem overlayStruct_zeros_noop : ∀ (fs : Fields) (bvs : Vals), bvs.HasTys fs = true →
    overlayStruct fs bvs (zeros (ptrifyFields fs)) = .ok bvs
  | .nil, bvs, h => by rw [hasTys_nil h, overlayStruct.eq_def]
  | .cons k t r, bvs, h => by
    obtain ⟨b, bs, rfl, _, hbs⟩ := hasTys_cons h
    have ih := overlayStruct_zeros_noop r bs hbs
    cases hs : skippedField k t with
    | true =>
      rw [ptrifyFields_cons_skipped r hs]
      exact overlayStruct_cons_skipped hs r b bs _ bs ih
    | false =>
      obtain ⟨t', _, hf, hz, _⟩ := ptrifyFields_cons_kept r hs
      rw [hf]
      exact overlayStruct_cons_kept hs r b _ b bs _ bs (overlayField_nil true b _ hz) ih

end Dials.Overlay
