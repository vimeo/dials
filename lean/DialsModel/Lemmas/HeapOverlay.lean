/-
C02: the heap-level model of overlay.go (Model/HeapOverlay.lean) is local, and the invariant of the real
`compose` (`composeR`).

For any set of addresses `P` closed under exported references (`Closed`) that contains every address not yet
allocated, `overlayFieldH` / `overlayStructH` started on a base and an overlay location inside the set write
only cells of the set, never shrink the heap, keep every cell's kind (`OvExt`), keep the heap well-formed and
the set closed (`OvInv`), on every exit (ok / err / panic / stuck).  With `P a := m ≤ a` this gives the loop
invariant of `composeR`; with what the base and the source reach, plus the addresses not yet allocated, it
gives the laws `OverlayLocalWF` for the step `ovReal`.
-/
import DialsModel.Model.HeapOverlay
import DialsModel.Lemmas.HeapCompose

namespace Dials.Heap
open Dials.Overlay (Ty Fields FieldKind omitField)

structure OvInv (P : Nat → Prop) (h : Heap) : Prop where
  closed : Closed P h
  cells : CellsOK h
  fresh : ∀ a, h.length ≤ a → P a

structure OvExt (P : Nat → Prop) (h h' : Heap) : Prop where
  len : h.length ≤ h'.length
  frame : ∀ a, ¬ P a → h'[a]? = h[a]?
  kinded : Kinded h h'

theorem OvExt.refl (P : Nat → Prop) (h : Heap) : OvExt P h h :=
  ⟨Nat.le_refl _, fun _ _ => rfl, Kinded.refl h⟩

theorem OvExt.trans {P : Nat → Prop} {h1 h2 h3 : Heap} (e1 : OvExt P h1 h2) (e2 : OvExt P h2 h3) : OvExt P h1 h3 :=
  ⟨Nat.le_trans e1.len e2.len, fun a ha => by rw [e2.frame a ha, e1.frame a ha], e1.kinded.trans e2.kinded⟩

theorem fsGet_in {P : Nat → Prop} {h : Heap} : ∀ (fs : HFs) (i : Nat) (v : HV), inFs P fs ∧ okFs h fs = true →
    fsGet fs i = some v → inV P v ∧ okV h v = true
  | .nil, _, _, _, hg => by cases hg
  | .cons ex v0 r, 0, v, ⟨hi, hk⟩, hg => by
    simp only [fsGet] at hg
    simp only [okFs, Bool.and_eq_true] at hk
    split at hg
    · cases hg; exact ⟨hi.1 ‹_›, hk.1⟩
    · cases hg
  | .cons ex v0 r, i + 1, v, ⟨hi, hk⟩, hg => by
    simp only [okFs, Bool.and_eq_true] at hk
    exact fsGet_in r i v ⟨hi.2, hk.2⟩ hg

theorem fsSet_in {P : Nat → Prop} {h : Heap} : ∀ (fs : HFs) (i : Nat) (w : HV), inFs P fs ∧ okFs h fs = true →
    inV P w ∧ okV h w = true → inFs P (fsSet fs i w) ∧ okFs h (fsSet fs i w) = true
  | .nil, _, _, _, _ => ⟨trivial, rfl⟩
  | .cons ex v0 r, 0, w, ⟨hi, hk⟩, hw => by
    simp only [okFs, Bool.and_eq_true] at hk
    simp only [fsSet, inFs, okFs, Bool.and_eq_true]
    exact ⟨⟨fun _ => hw.1, hi.2⟩, hw.2, hk.2⟩
  | .cons ex v0 r, i + 1, w, ⟨hi, hk⟩, hw => by
    simp only [okFs, Bool.and_eq_true] at hk
    have ih := fsSet_in r i w ⟨hi.2, hk.2⟩ hw
    simp only [fsSet, inFs, okFs, Bool.and_eq_true]
    exact ⟨⟨hi.1, ih.1⟩, hk.1, ih.2⟩

theorem getPath_in {P : Nat → Prop} {h : Heap} : ∀ (p : List Nat) (v w : HV), inV P v ∧ okV h v = true →
    getPath v p = some w → inV P w ∧ okV h w = true := by
  intro p
  induction p with
  | nil => intro v w hv hg; cases hg; exact hv
  | cons i p ih =>
    intro v w hv hg
    cases v <;> simp only [getPath, reduceCtorEq] at hg
    split at hg
    · exact ih _ w (fsGet_in _ i _ hv ‹_›) hg
    · cases hg

theorem setPath_in {P : Nat → Prop} {h : Heap} : ∀ (p : List Nat) (v w v' : HV), inV P v ∧ okV h v = true →
    inV P w ∧ okV h w = true → setPath v p w = some v' → inV P v' ∧ okV h v' = true := by
  intro p
  induction p with
  | nil => intro v w v' _ hw hg; cases hg; exact hw
  | cons i p ih =>
    intro v w v' hv hw hg
    cases v <;> simp only [setPath, reduceCtorEq] at hg
    split at hg
    · split at hg
      · cases hg
        exact fsSet_in _ i _ hv (ih _ w _ (fsGet_in _ i _ hv ‹_›) hw ‹_›)
      · cases hg
    · cases hg

theorem readLoc_in {P : Nat → Prop} {h : Heap} (I : OvInv P h) {l : Loc} {v : HV} (hl : P l.addr)
    (hr : readLoc h l = some v) : inV P v ∧ okV h v = true := by
  unfold readLoc at hr
  split at hr
  · rename_i v0 h0
    exact getPath_in l.path v0 v ⟨I.closed l.addr _ hl h0, I.cells.val h0⟩ hr
  · cases hr

theorem readLoc_ptr {P : Nat → Prop} {h : Heap} (I : OvInv P h) {l : Loc} {c : Nat} (hl : P l.addr)
    (hr : readLoc h l = some (.ptr c)) : P c := (readLoc_in I hl hr).1

def Snd (P : Nat → Prop) (h : Heap) (r : Heap × St) : Prop := OvInv P r.1 ∧ OvExt P h r.1

theorem Snd.refl {P : Nat → Prop} {h : Heap} (I : OvInv P h) (st : St) : Snd P h (h, st) := ⟨I, OvExt.refl P h⟩

theorem Snd.trans {P : Nat → Prop} {h h1 : Heap} {r : Heap × St} (e : OvExt P h h1) (s : Snd P h1 r) : Snd P h r :=
  ⟨s.1, e.trans s.2⟩

theorem Snd.st {P : Nat → Prop} {h h1 : Heap} {st : St} (s : Snd P h (h1, st)) (st' : St) : Snd P h (h1, st') := s

theorem writeLoc_sound {P : Nat → Prop} {h h' : Heap} (I : OvInv P h) {l : Loc} {w : HV} (hl : P l.addr)
    (hw : inV P w) (hok : okV h w = true) (hc : writeLoc h l w = some h') : OvInv P h' ∧ OvExt P h h' := by
  unfold writeLoc at hc
  split at hc
  · rename_i v0 h0
    split at hc
    · rename_i v' hs
      cases hc
      have hk : Kinded h (h.set l.addr (.val v')) := .set h0 trivial
      obtain ⟨hin, hok'⟩ := setPath_in l.path v0 w v' ⟨I.closed l.addr _ hl h0, I.cells.val h0⟩ ⟨hw, hok⟩ hs
      exact ⟨⟨I.closed.set _ (c := .val v') hin, I.cells.set hk (okV_kinded hk v' hok'),
          fun a ha => I.fresh a (by simpa using ha)⟩,
        ⟨by simp, fun a ha => List.getElem?_set_ne fun (he : l.addr = a) => ha (he ▸ hl), hk⟩⟩
    · cases hc
  · cases hc

mutual
theorem pureV_in (P : Nat → Prop) (h : Heap) : ∀ v, pureV v = true → inV P v ∧ okV h v = true
  | .sc _, _ => ⟨trivial, rfl⟩
  | .nil, _ => ⟨trivial, rfl⟩
  | .ptr _, hp => by simp [pureV] at hp
  | .mp _, hp => by simp [pureV] at hp
  | .sl _ _, hp => by simp [pureV] at hp
  | .st fs, hp => by simp only [pureV] at hp; simp only [inV, okV]; exact pureFs_in P h fs hp
  | .ar fs, hp => by simp only [pureV] at hp; simp only [inV, okV]; exact pureFs_in P h fs hp
  | .ifc d, hp => by simp only [pureV] at hp; simp only [inV, okV]; exact pureV_in P h d hp
theorem pureFs_in (P : Nat → Prop) (h : Heap) : ∀ fs, pureFs fs = true → inFs P fs ∧ okFs h fs = true
  | .nil, _ => ⟨trivial, rfl⟩
  | .cons ex v r, hp => by
    simp only [pureFs, Bool.and_eq_true] at hp
    simp only [inFs, okFs, Bool.and_eq_true]
    exact ⟨⟨fun _ => (pureV_in P h v hp.1).1, (pureFs_in P h r hp.2).1⟩, (pureV_in P h v hp.1).2, (pureFs_in P h r hp.2).2⟩
end

theorem pure_zeroTag (z : Zeros) (n : Nat) : pureV (zeroTag z n) = true := by
  unfold zeroTag
  split
  · split
    · assumption
    · rfl
  · rfl

mutual
theorem pure_zeroH (z : Zeros) : ∀ t, pureV (zeroH z t) = true
  | .scalar n => by simp only [zeroH]; exact pure_zeroTag z n
  | .tu n => by simp only [zeroH]; exact pure_zeroTag z n
  | .slice _ => rfl
  | .map _ => rfl
  | .ptr _ => rfl
  | .chan => rfl
  | .func => rfl
  | .struct fs => by simp only [zeroH, pureV]; exact pure_zeroFs z fs
theorem pure_zeroFs (z : Zeros) : ∀ fs, pureFs (zeroFs z fs) = true
  | .nil => rfl
  | .cons k t r => by simp only [zeroFs, pureFs, Bool.and_eq_true]; exact ⟨pure_zeroH z t, pure_zeroFs z r⟩
end

theorem alloc_sound {P : Nat → Prop} {h : Heap} (I : OvInv P h) {v : HV} (hp : pureV v = true) :
    OvInv P (h ++ [.val v]) ∧ OvExt P h (h ++ [.val v]) ∧ P h.length :=
  ⟨⟨I.closed.append (c := .val v) (pureV_in P h v hp).1, I.cells.append (pureV_in P _ v hp).2,
      fun a ha => I.fresh a (by simp at ha; omega)⟩,
    ⟨by simp, fun a ha => List.getElem?_append_left (Nat.lt_of_not_le fun hge => ha (I.fresh a hge)), Kinded.append h _⟩,
    I.fresh _ (Nat.le_refl _)⟩

theorem setLoc_sound {P : Nat → Prop} {h : Heap} (I : OvInv P h) (bt vt : Ty) {bl : Loc} {v : HV} (hb : P bl.addr)
    (hv : inV P v ∧ okV h v = true) : Snd P h (setLoc h bt vt bl v) := by
  unfold setLoc
  split
  · split
    · rename_i h' hw; exact writeLoc_sound I hb hv.1 hv.2 hw
    · exact Snd.refl I _
  · exact Snd.refl I _

theorem elemLoc_in {P : Nat → Prop} {h : Heap} (I : OvInv P h) {ol el : Loc} (ho : P ol.addr)
    (he : elemLoc h ol = some el) : P el.addr := by
  unfold elemLoc at he
  split at he
  · rename_i c hr
    split at he
    · cases he; exact readLoc_ptr I ho hr
    · cases he
  · cases he

theorem setFromElem_sound {P : Nat → Prop} {h : Heap} (I : OvInv P h) (bt oe : Ty) {bl ol : Loc} (hb : P bl.addr)
    (ho : P ol.addr) : Snd P h (setFromElem h bt oe bl ol) := by
  unfold setFromElem
  split
  · rename_i el he
    split
    · rename_i pv hr
      exact setLoc_sound I bt oe hb (readLoc_in I (elemLoc_in I ho he) hr)
    · exact Snd.refl I _
  · exact Snd.refl I _

/-- `base.Set(reflect.New(T))` of overlay.go -/
theorem allocWrite_sound {P : Nat → Prop} {h h2 : Heap} (I : OvInv P h) {v : HV} (hp : pureV v = true) {bl : Loc}
    (hb : P bl.addr) (hw : writeLoc (h ++ [.val v]) bl (.ptr h.length) = some h2) :
    OvInv P h2 ∧ OvExt P h h2 ∧ P h.length := by
  obtain ⟨I1, e1, hn⟩ := alloc_sound I hp
  obtain ⟨I2, e2⟩ := writeLoc_sound I1 hb (w := .ptr h.length) hn (by simp [okV]) hw
  exact ⟨I2, e1.trans e2, hn⟩

/-- Whatever `overlayFieldH` / `overlayStructH` do to the heap is built from seven moves; a property `Q h b o r`
of the start heap, the cells of the base and of the overlay location and the result that is closed under
them holds of every run.  Only the cells matter: `Loc.field` stays inside its cell. -/
theorem overlay_induction (z : Zeros) (Q : Heap → Nat → Nat → Heap × St → Prop)
    (stop : ∀ h b o st, Q h b o (h, st))
    (set : ∀ h (bl ol : Loc) bt vt v, readLoc h ol = some v → Q h bl.addr ol.addr (setLoc h bt vt bl v))
    (setElem : ∀ h (bl ol : Loc) bt oe, Q h bl.addr ol.addr (setFromElem h bt oe bl ol))
    (elem : ∀ h b (ol el : Loc) r, elemLoc h ol = some el → Q h b el.addr r → Q h b ol.addr r)
    (deref : ∀ h (bl : Loc) o c r, readLoc h bl = some (.ptr c) → Q h c o r → Q h bl.addr o r)
    (alloc : ∀ h (bl : Loc) o v h2 r, pureV v = true → writeLoc (h ++ [.val v]) bl (.ptr h.length) = some h2 →
      Q h2 h.length o r → Q h bl.addr o r)
    (seq : ∀ h b o h' st r, Q h b o (h', st) → Q h' b o r → Q h b o r) :
    (∀ settable bt ot h (bl ol : Loc), Q h bl.addr ol.addr (overlayFieldH z settable bt ot h bl ol)) ∧
    (∀ bfs ofs h (bl ol : Loc) i j, Q h bl.addr ol.addr (overlayStructH z bfs ofs h bl ol i j)) := by
  suffices aux : ∀ n : Nat,
      (∀ settable bt ot h (bl ol : Loc), sizeOf bt < n →
        Q h bl.addr ol.addr (overlayFieldH z settable bt ot h bl ol)) ∧
      (∀ bfs ofs h (bl ol : Loc) i j, sizeOf bfs < n →
        Q h bl.addr ol.addr (overlayStructH z bfs ofs h bl ol i j)) from
    ⟨fun _ bt _ _ _ _ => (aux _).1 _ bt _ _ _ _ (Nat.lt_succ_self _),
      fun bfs _ _ _ _ _ _ => (aux _).2 bfs _ _ _ _ _ _ (Nat.lt_succ_self _)⟩
  intro n
  induction n with
  | zero => exact ⟨fun _ _ _ _ _ _ hn => by omega, fun _ _ _ _ _ _ _ hn => by omega⟩
  | succ n ih =>
    refine ⟨?_, ?_⟩
    · intro settable bt ot h bl ol hn
      unfold overlayFieldH
      -- every arm starts with the same three exits
      split <;> (split; exact stop ..; split; exact stop ..; split; exact stop ..)
      · rename_i bfs _ ov hov _ _
        have hlt : sizeOf bfs < n := by simp only [Ty.ptr.sizeOf_spec, Ty.struct.sizeOf_spec] at hn; omega
        split
        · split
          · exact stop ..
          · exact stop ..
          · split
            · exact set _ _ _ _ _ _ hov
            · split
              · exact stop ..
              · rename_i h2 hw
                refine alloc _ _ _ (.st (zeroFs z bfs)) _ _ (pure_zeroFs z bfs) hw ?_
                split
                · split
                  · rename_i el he
                    exact elem _ _ _ _ _ he (ih.2 _ _ _ ⟨_, []⟩ _ _ _ hlt)
                  · exact stop ..
                · exact stop ..
                · exact stop ..
        · rename_i c hc
          split
          · split
            · rename_i el _ he
              exact deref _ _ _ _ _ hc (elem _ _ _ _ _ he (ih.2 _ _ _ ⟨_, []⟩ _ _ _ hlt))
            · exact stop ..
          · exact stop ..
          · exact stop ..
        · exact stop ..
      · rename_i ov hov _ _
        split
        · split
          · exact stop ..
          · exact stop ..
          · split
            · exact set _ _ _ _ _ _ hov
            · exact stop ..
        · rename_i c hc
          split
          · exact set _ _ _ _ _ _ hov
          · split
            · split
              · exact deref _ _ _ _ _ hc (set _ ⟨c, []⟩ _ _ _ _ hov)
              · exact stop ..
            · exact stop ..
        · exact stop ..
      · rename_i ov hov _ _
        split
        · split
          · exact stop ..
          · exact stop ..
          · split
            · exact set _ _ _ _ _ _ hov
            · exact stop ..
        · split
          · exact set _ _ _ _ _ _ hov
          · exact stop ..
        · exact stop ..
      · rename_i ov hov _ _
        split
        · exact setElem ..
        · split
          · exact set _ _ _ _ _ _ hov
          · exact stop ..
        · exact stop ..
        · exact stop ..
      · rename_i bfs _ ov hov _ _
        have hlt : sizeOf bfs < n := by simp only [Ty.struct.sizeOf_spec] at hn; omega
        split
        · split
          · rename_i el he
            exact elem _ _ _ _ _ he (ih.2 _ _ _ _ _ _ _ hlt)
          · exact stop ..
        · exact stop ..
        · exact ih.2 _ _ _ _ _ _ _ hlt
        · exact stop ..
      · rename_i ov hov _ _
        split
        · exact setElem ..
        · exact set _ _ _ _ _ _ hov
    · intro bfs ofs h bl ol i j hn
      unfold overlayStructH
      split
      · exact stop ..
      · rename_i k t r
        simp only [Fields.cons.sizeOf_spec] at hn
        split
        · exact ih.2 r _ h bl ol (i + 1) j (by omega)
        · split
          · exact stop ..
          · rename_i ot ofs'
            have hf := ih.1 (decide (k ≠ .unexported)) t ot h (bl.field i) (ol.field j) (by omega)
            generalize overlayFieldH z (decide (k ≠ .unexported)) t ot h (bl.field i) (ol.field j) = res at hf ⊢
            obtain ⟨h', st⟩ := res
            cases st with
            | ok => exact seq _ _ _ _ _ _ hf (ih.2 r ofs' h' bl ol _ _ (by omega))
            | _ => exact hf

theorem overlay_sound (P : Nat → Prop) (z : Zeros) :
    (∀ settable bt ot h (bl ol : Loc), OvInv P h → P bl.addr → P ol.addr →
      Snd P h (overlayFieldH z settable bt ot h bl ol)) ∧
    (∀ bfs ofs h (bl ol : Loc) i j, OvInv P h → P bl.addr → P ol.addr →
      Snd P h (overlayStructH z bfs ofs h bl ol i j)) :=
  overlay_induction z (fun h b o r => OvInv P h → P b → P o → Snd P h r)
    (fun _ _ _ st I _ _ => Snd.refl I st)
    (fun _ _ _ bt vt _ hv I hb ho => setLoc_sound I bt vt hb (readLoc_in I ho hv))
    (fun _ _ _ bt oe I hb ho => setFromElem_sound I bt oe hb ho)
    (fun _ _ _ _ _ he hq I hb ho => hq I hb (elemLoc_in I ho he))
    (fun _ _ _ _ _ hr hq I hb ho => hq I (readLoc_ptr I hb hr) ho)
    (fun _ _ _ _ _ _ hp hw hq I hb ho =>
      have ⟨I2, e2, hn⟩ := allocWrite_sound I hp hb hw
      Snd.trans e2 (hq I2 hn ho))
    (fun _ _ _ _ _ _ hq1 hq2 I hb ho => Snd.trans (hq1 I hb ho).2 (hq2 (hq1 I hb ho).1 hb ho))

theorem overlayFieldH_sound (P : Nat → Prop) (z : Zeros) (settable : Bool) (bt ot : Ty) (h : Heap) (bl ol : Loc)
    (I : OvInv P h) (hb : P bl.addr) (ho : P ol.addr) :
    OvInv P (overlayFieldH z settable bt ot h bl ol).1 ∧ OvExt P h (overlayFieldH z settable bt ot h bl ol).1 :=
  (overlay_sound P z).1 settable bt ot h bl ol I hb ho

theorem overlayStructH_sound (P : Nat → Prop) (z : Zeros) (bfs ofs : Fields) (h : Heap) (bl ol : Loc) (i j : Nat)
    (I : OvInv P h) (hb : P bl.addr) (ho : P ol.addr) :
    OvInv P (overlayStructH z bfs ofs h bl ol i j).1 ∧ OvExt P h (overlayStructH z bfs ofs h bl ol i j).1 :=
  (overlay_sound P z).2 bfs ofs h bl ol i j I hb ho

theorem writeLoc_len {h h' : Heap} {l : Loc} {w : HV} (hc : writeLoc h l w = some h') : h'.length = h.length := by
  unfold writeLoc at hc
  split at hc
  · split at hc
    · cases hc; simp
    · cases hc
  · cases hc

theorem setLoc_len (h : Heap) (bt vt : Ty) (bl : Loc) (v : HV) : h.length ≤ (setLoc h bt vt bl v).1.length := by
  unfold setLoc
  split
  · split
    · rename_i h' hw; exact Nat.le_of_eq (writeLoc_len hw).symm
    · exact Nat.le_refl _
  · exact Nat.le_refl _

theorem setFromElem_len (h : Heap) (bt oe : Ty) (bl ol : Loc) : h.length ≤ (setFromElem h bt oe bl ol).1.length := by
  unfold setFromElem
  split
  · split
    · exact setLoc_len h bt oe bl _
    · exact Nat.le_refl _
  · exact Nat.le_refl _

theorem overlay_len (z : Zeros) :
    (∀ settable bt ot h (bl ol : Loc), h.length ≤ (overlayFieldH z settable bt ot h bl ol).1.length) ∧
    (∀ bfs ofs h (bl ol : Loc) i j, h.length ≤ (overlayStructH z bfs ofs h bl ol i j).1.length) :=
  overlay_induction z (fun h _ _ r => h.length ≤ r.1.length)
    (fun _ _ _ _ => Nat.le_refl _)
    (fun h bl _ bt vt v _ => setLoc_len h bt vt bl v)
    (fun h bl ol bt oe => setFromElem_len h bt oe bl ol)
    (fun _ _ _ _ _ _ hq => hq)
    (fun _ _ _ _ _ _ hq => hq)
    (fun h _ _ _ _ _ _ hw hq => by
      have := writeLoc_len hw
      simp only [List.length_append, List.length_singleton] at this
      omega)
    (fun _ _ _ _ _ _ hq1 hq2 => Nat.le_trans hq1 hq2)

theorem overlayStructH_len (z : Zeros) (bfs ofs : Fields) (h : Heap) (bl ol : Loc) (i j : Nat) :
    h.length ≤ (overlayStructH z bfs ofs h bl ol i j).1.length :=
  (overlay_len z).2 bfs ofs h bl ol i j

theorem overlayFieldH_len (z : Zeros) (settable : Bool) (bt ot : Ty) (h : Heap) (bl ol : Loc) :
    h.length ≤ (overlayFieldH z settable bt ot h bl ol).1.length :=
  (overlay_len z).1 settable bt ot h bl ol

theorem OvInv.of_fresh {m : Nat} {h : Heap} (hf : FreshHeap m h) (hc : CellsOK h) (hm : m ≤ h.length) :
    OvInv (fun a => m ≤ a) h :=
  ⟨(freshHeap_iff_closed m h).1 hf, hc, fun _ ha => Nat.le_trans hm ha⟩

structure LInv (m b : Nat) (hi : Heap) : Prop where
  len : m ≤ hi.length
  ok : HeapOK hi = true
  fresh : FreshHeap m hi
  base : m ≤ b
  cell : ∃ v, hi[b]? = some (Cell.val v)

structure LExt (m : Nat) (hi h' : Heap) : Prop where
  len : hi.length ≤ h'.length
  frozen : ∀ a, a < m → h'[a]? = hi[a]?
  kinded : Kinded hi h'

theorem LExt.refl (m : Nat) (h : Heap) : LExt m h h := ⟨Nat.le_refl _, fun _ _ => rfl, Kinded.refl h⟩

theorem LExt.trans {m : Nat} {h1 h2 h3 : Heap} (e1 : LExt m h1 h2) (e2 : LExt m h2 h3) : LExt m h1 h3 :=
  ⟨Nat.le_trans e1.len e2.len, fun a ha => by rw [e2.frozen a ha, e1.frozen a ha], e1.kinded.trans e2.kinded⟩

theorem LInv.copy {m b f : Nat} {hi h1 : Heap} {v v' : HV} (I : LInv m b hi) (hv : okV hi v = true)
    (hc : deepCopy f hi v = some (h1, v')) : LInv m b h1 ∧ LExt m hi h1 ∧ okV h1 v' = true ∧ frV m v' := by
  obtain ⟨hlen, hfr⟩ := deepCopy_frozen hc
  obtain ⟨hok, hokv⟩ := deepCopy_ok I.ok hv hc
  obtain ⟨hf, hfv⟩ := deepCopy_fresh_at I.ok hv I.len I.fresh hc
  have hk : Kinded hi h1 := Kinded.of_prefix hfr
  obtain ⟨w, hw⟩ := I.cell
  exact ⟨⟨Nat.le_trans I.len hlen, hok, hf, I.base, hk.val b w hw⟩,
    ⟨hlen, fun a ha => hfr a (Nat.lt_of_lt_of_le ha I.len), hk⟩, hokv, hfv⟩

theorem LInv.append {m b : Nat} {h1 : Heap} {sv : HV} (I : LInv m b h1) (hv : okV h1 sv = true) (hf : frV m sv) :
    LInv m b (h1 ++ [.val sv]) ∧ LExt m h1 (h1 ++ [.val sv]) := by
  have hk := Kinded.append h1 (.val sv)
  obtain ⟨w, hw⟩ := I.cell
  refine ⟨⟨by simp; exact Nat.le_succ_of_le I.len, ?_, I.fresh.append (c := .val sv) hf, I.base, hk.val b w hw⟩,
    ⟨by simp, fun a ha => List.getElem?_append_left (Nat.lt_of_lt_of_le ha I.len), hk⟩⟩
  exact ((CellsOK.of_heapOK I.ok).append (by simp only [okCell]; exact okV_kinded hk sv hv)).to_heapOK

theorem LInv.overlay {m b c : Nat} {h1 : Heap} (I : LInv m b h1) (hc : m ≤ c) (z : Zeros) (bfs ofs : Fields) :
    LInv m b (overlayStructH z bfs ofs h1 ⟨b, []⟩ ⟨c, []⟩ 0 0).1 ∧
    LExt m h1 (overlayStructH z bfs ofs h1 ⟨b, []⟩ ⟨c, []⟩ 0 0).1 := by
  obtain ⟨I', e⟩ := overlayStructH_sound (fun a => m ≤ a) z bfs ofs h1 ⟨b, []⟩ ⟨c, []⟩ 0 0
    (OvInv.of_fresh I.fresh (CellsOK.of_heapOK I.ok) I.len) I.base hc
  obtain ⟨w, hw⟩ := I.cell
  exact ⟨⟨Nat.le_trans I.len e.len, I'.cells.to_heapOK, (freshHeap_iff_closed m _).2 I'.closed, I.base, e.kinded.val b w hw⟩,
    ⟨e.len, fun a ha => e.frame a (by omega), e.kinded⟩⟩

/-- `verifOverlayH`, the harness op, is the same function -/
theorem overlayLayerH_inv {z : Zeros} {f : Nat} {bfs ofs : Fields} {m b : Nat} {hi h' : Heap} {v : HV} {st : St}
    (I : LInv m b hi) (hv : okV hi v = true) (hc : overlayLayerH z f bfs ofs hi b v = some (h', st)) :
    LInv m b h' ∧ LExt m hi h' := by
  unfold overlayLayerH at hc
  -- F8b: breaks (as intended) if the regenerated fact flips
  have hF : Facts.composeCopiesSources = true := rfl
  simp only [hF, if_true] at hc
  split at hc
  · rename_i c
    split at hc
    · cases hc
    · rename_i h1 c' hd
      obtain ⟨I1, e1, _, hfc⟩ := I.copy hv hd
      obtain ⟨I2, e2⟩ := I1.overlay (c := c') hfc z bfs ofs
      simp only [Option.some.injEq] at hc
      rw [hc] at I2 e2
      exact ⟨I2, e1.trans e2⟩
    · rename_i h1 w _ hd
      obtain ⟨I1, e1, _, _⟩ := I.copy hv hd
      cases hc
      exact ⟨I1, e1⟩
  · rename_i fs
    split at hc
    · cases hc
    · rename_i h1 sv hd
      obtain ⟨I1, e1, hok, hfv⟩ := I.copy hv hd
      obtain ⟨I2, e2⟩ := I1.append hok hfv
      obtain ⟨I3, e3⟩ := I2.overlay (c := h1.length) (Nat.le_trans I.len e1.len) z bfs ofs
      simp only [Option.some.injEq] at hc
      rw [hc] at I3 e3
      exact ⟨I3, e1.trans (e2.trans e3)⟩
  · cases hc; exact ⟨I, LExt.refl m _⟩
  · cases hc; exact ⟨I, LExt.refl m _⟩

theorem composeLoop_inv {z : Zeros} {f : Nat} {bfs : Fields} {m b : Nat} :
    ∀ (vs : List (Fields × HV)) (hi : Heap), LInv m b hi → (∀ p ∈ vs, okV hi p.2 = true) →
      ∀ h' st, composeLoop z f bfs b hi vs = some (h', st) → LInv m b h' ∧ LExt m hi h' := by
  intro vs
  induction vs with
  | nil =>
    intro hi I _ h' st hc
    simp only [composeLoop, Option.some.injEq, Prod.mk.injEq] at hc
    obtain ⟨rfl, _⟩ := hc
    exact ⟨I, LExt.refl m _⟩
  | cons p vs ih =>
    intro hi I hvs h' st hc
    obtain ⟨ofs, v⟩ := p
    simp only [composeLoop] at hc
    split at hc
    · cases hc
    · rename_i h1 hl
      obtain ⟨I1, e1⟩ := overlayLayerH_inv I (hvs (ofs, v) (by simp)) hl
      obtain ⟨I2, e2⟩ := ih h1 I1 (fun q hq => okV_kinded e1.kinded _ (hvs q (List.mem_cons_of_mem _ hq))) h' st hc
      exact ⟨I2, e1.trans e2⟩
    · rename_i h1 st1 _ hl
      simp only [Option.some.injEq, Prod.mk.injEq] at hc
      obtain ⟨rfl, _⟩ := hc
      exact overlayLayerH_inv I (hvs (ofs, v) (by simp)) hl

structure RInv (h h' : Heap) (r : HV) : Prop where
  len : h.length ≤ h'.length
  frozen : ∀ a, a < h.length → h'[a]? = h[a]?
  ok : HeapOK h' = true
  okr : okV h' r = true
  fresh : ∀ a, ReachV h' r a → h.length ≤ a

theorem RInv.of_cinv {h h' : Heap} {r : HV} (c : CInv h h' r) : RInv h h' r :=
  ⟨c.len, c.frozen, c.ok, c.okb, c.fresh⟩

theorem composeR_inv {z : Zeros} {f : Nat} {bfs : Fields} {h : Heap} {d : HV} {vs : List (Fields × HV)}
    (hh : HeapOK h = true) (hd : okV h d = true) (hvs : ∀ p ∈ vs, okV h p.2 = true)
    {h' : Heap} {st : St} {r : HV} (hc : composeR z f bfs h d vs = some (h', st, r)) : RInv h h' r := by
  unfold composeR at hc
  -- F8a: breaks (as intended) if the regenerated fact flips
  have hF : Facts.composeCopiesDefaults = true := rfl
  simp only [hF, if_true] at hc
  split at hc
  · cases hc
  · rename_i h1 b hd1
    have C := CInv.start hh hd hd1
    split at hc
    · rename_i w hw
      split at hc
      · cases hc
      · rename_i h2 st2 hl
        simp only [Option.some.injEq, Prod.mk.injEq] at hc
        obtain ⟨rfl, rfl, rfl⟩ := hc
        obtain ⟨hf1, hfb⟩ := deepCopy_fresh_at hh hd (Nat.le_refl _) ((freshHeap_iff_closed ..).2 (Closed.above h)) hd1
        have I1 : LInv h.length b h1 := ⟨C.len, C.ok, hf1, hfb, ⟨w, hw⟩⟩
        have hk1 : Kinded h h1 := Kinded.of_prefix C.frozen
        obtain ⟨I2, e2⟩ := composeLoop_inv vs h1 I1 (fun p hp => okV_kinded hk1 _ (hvs p hp)) h2 st2 hl
        obtain ⟨w2, hw2⟩ := I2.cell
        refine ⟨I2.len, fun a ha => by rw [e2.frozen a ha, C.frozen a ha], I2.ok, by simp [okV, hw2], ?_⟩
        intro a ha
        exact reach_fresh I2.fresh ha I2.base
    · simp only [Option.some.injEq, Prod.mk.injEq] at hc
      obtain ⟨rfl, _, rfl⟩ := hc
      exact RInv.of_cinv C
  · rename_i h1 r1 _ hd1
    simp only [Option.some.injEq, Prod.mk.injEq] at hc
    obtain ⟨rfl, _, rfl⟩ := hc
    exact RInv.of_cinv (CInv.start hh hd hd1)

theorem OvInv.of_reach {h : Heap} {b o : HV} (hh : HeapOK h = true) (hb : okV h b = true) (ho : okV h o = true) :
    OvInv (fun a => ReachV h b a ∨ ReachV h o a ∨ h.length ≤ a) h := by
  have hc := CellsOK.of_heapOK hh
  refine ⟨?_, hc, fun a ha => .inr (.inr ha)⟩
  intro a c ha hg
  rcases ha with ha | ha | ha
  · exact inCell_mono (fun x hx => .inl hx) c (reach_cell hc ha hb c hg)
  · exact inCell_mono (fun x hx => .inr (.inl hx)) c (reach_cell hc ha ho c hg)
  · have := lt_of_getElem? hg; omega

/-- the overlay step of `compose` in the shape of the parameter `ov` of `composeH`: base and source are pointers
to struct cells -/
def ovReal (z : Zeros) (bfs ofs : Fields) (h : Heap) (b o : HV) : Heap × HV :=
  match b, o with
  | .ptr a, .ptr c => ((overlayStructH z bfs ofs h ⟨a, []⟩ ⟨c, []⟩ 0 0).1, .ptr a)
  | _, _ => (h, b)

theorem ovReal_cases (z : Zeros) (bfs ofs : Fields) (h : Heap) (b o : HV) :
    (∃ a c, b = .ptr a ∧ o = .ptr c ∧
      ovReal z bfs ofs h b o = ((overlayStructH z bfs ofs h ⟨a, []⟩ ⟨c, []⟩ 0 0).1, .ptr a)) ∨
    ovReal z bfs ofs h b o = (h, b) := by
  unfold ovReal
  split
  · exact .inl ⟨_, _, rfl, rfl, rfl⟩
  · exact .inr rfl

theorem ovReal_sound (z : Zeros) (bfs ofs : Fields) {h : Heap} {a c : Nat} (hh : HeapOK h = true)
    (hb : okV h (.ptr a) = true) (ho : okV h (.ptr c) = true) :
    let P := fun x => ReachV h (.ptr a) x ∨ ReachV h (.ptr c) x ∨ h.length ≤ x
    OvInv P (overlayStructH z bfs ofs h ⟨a, []⟩ ⟨c, []⟩ 0 0).1 ∧
    OvExt P h (overlayStructH z bfs ofs h ⟨a, []⟩ ⟨c, []⟩ 0 0).1 :=
  overlayStructH_sound _ z bfs ofs h ⟨a, []⟩ ⟨c, []⟩ 0 0 (OvInv.of_reach hh hb ho)
    (.inl (.ptrHere a)) (.inr (.inl (.ptrHere c)))

theorem overlayLocalWF_ovReal (z : Zeros) (bfs ofs : Fields) : OverlayLocalWF (ovReal z bfs ofs) := by
  refine ⟨fun h b o => ?_, fun h b o mark hh hb ho hrb hro x hx => ?_,
    fun h b o mark hh hb ho hm hrb hro x hx => ?_, fun h b o hh hb ho => ?_⟩
  · rcases ovReal_cases z bfs ofs h b o with ⟨a, c, rfl, rfl, he⟩ | he
    · rw [he]; exact overlayStructH_len z bfs ofs h _ _ 0 0
    · rw [he]; exact Nat.le_refl _
  · rcases ovReal_cases z bfs ofs h b o with ⟨a, c, rfl, rfl, he⟩ | he
    · rw [he]
      obtain ⟨_, e⟩ := ovReal_sound z bfs ofs hh hb ho
      refine e.frame x ?_
      obtain ⟨w, hw⟩ := okV_ptr hb
      have h1 := lt_of_getElem? hw
      have h2 := hrb a (.ptrHere a)
      rintro (h3 | h3 | h3)
      · have := hrb x h3; omega
      · have := hro x h3; omega
      · omega
    · rw [he]
  · rcases ovReal_cases z bfs ofs h b o with ⟨a, c, rfl, rfl, he⟩ | he
    · rw [he] at hx
      obtain ⟨I', _⟩ := ovReal_sound z bfs ofs hh hb ho
      have hp := reach_in I'.closed hx (.inl (.ptrHere a))
      rcases hp with h3 | h3 | h3
      · exact hrb x h3
      · exact hro x h3
      · omega
    · rw [he] at hx; exact hrb x hx
  · rcases ovReal_cases z bfs ofs h b o with ⟨a, c, rfl, rfl, he⟩ | he
    · rw [he]
      obtain ⟨I', e⟩ := ovReal_sound z bfs ofs hh hb ho
      exact ⟨I'.cells.to_heapOK, okV_kinded e.kinded _ hb⟩
    · rw [he]; exact ⟨hh, hb⟩

end Dials.Heap
