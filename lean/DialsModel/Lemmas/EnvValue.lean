/-
For C11: the unmangle direction of the env chain's layers on an arbitrary filling of the translated fields.
One layer lemma (`unmangleLayer_vals`: where the recursion leaves the values alone, a layer is `unmangle`
applied group by group), its instances for string cast / tag reformat / tag copy / flatten / alias, and the
composition along the chain: `reverse_envChain`, and with the environment's filling `envValue_envChain` — the
environment source as three stages in sequence (every leaf's own variable parsed, flatten, alias).
-/
import DialsModel.Lemmas.TfChain
import DialsModel.Lemmas.TfCanon
import DialsModel.Lemmas.AliasDepth

namespace Dials.Tf

theorem All2.append_inv {R : FT → Val → Prop} : ∀ (a c : List FT) (v : List Val), All2 R (a ++ c) v →
    All2 R a (v.take a.length) ∧ All2 R c (v.drop a.length)
  | [], c, v, h => by simpa using h
  | f :: a, c, [], h => by simp at h
  | f :: a, c, x :: v, h => by
    simp only [List.cons_append, All2_cons] at h
    obtain ⟨h1, h2⟩ := All2.append_inv a c v h.2
    simp only [List.length_cons, List.take_succ_cons, List.drop_succ_cons, All2_cons]
    exact ⟨⟨h.1, h1⟩, h2⟩

theorem mapM'_append {α β} (f : α → Outcome β) : ∀ (xs ys : List α) (a b : List β),
    mapM' f xs = .ok a → mapM' f ys = .ok b → mapM' f (xs ++ ys) = .ok (a ++ b) :=
  fun xs ys a b h1 h2 => by rw [mapM'_append_seq, h1, h2]; rfl

theorem mapM'_err {α β} {f : α → Outcome β} : ∀ {xs : List α}, (∀ x ∈ xs, ∀ c, f x ≠ .panic c) →
    (∃ x ∈ xs, ∃ c, f x = .err c) → ∃ c, mapM' f xs = .err c
  | [], _, ⟨x, hx, _⟩ => by cases hx
  | y :: ys, hnp, ⟨x, hx, c, hc⟩ => by
    simp only [mapM']
    cases hy : f y with
    | err c' => exact ⟨c', rfl⟩
    | panic c' => exact absurd hy (hnp y (by simp) c')
    | ok b =>
      have hx' : x ∈ ys := by
        rcases List.mem_cons.1 hx with rfl | hx
        · rw [hy] at hc; cases hc
        · exact hx
      obtain ⟨c', hc'⟩ := mapM'_err (fun z hz => hnp z (by simp [hz])) ⟨x, hx', c, hc⟩
      simp only [hc']
      exact ⟨c', rfl⟩

theorem splitCounts_ones {α} : ∀ (n : Nat) (vs : List α), vs.length = n →
    splitCounts (List.replicate n 1) vs = vs.map fun v => [v]
  | 0, [], _ => rfl
  | 0, _ :: _, h => by simp at h
  | n + 1, [], h => by simp at h
  | n + 1, v :: vs, h => by
    simp only [List.replicate_succ, splitCounts, List.take_succ_cons, List.take_zero, List.drop_succ_cons,
      List.drop_zero, List.map_cons, splitCounts_ones n vs (by simpa using h)]

theorem unmBody_groups {m : Mangler} {U : Hdr → Ty → List Val → Outcome Val}
    (hU : ∀ h t (fvs : List (FT × Val)), m.unmangle h t fvs = U h t (fvs.map (·.2))) (k : Nat) :
    ∀ (fs : List FT) (outss : List (List FT)) (vals : List Val),
      mapM' (fun (f : FT) => m.mangle f.1 f.2) fs = .ok outss →
      (∀ f ∈ fs, ∃ outs outs', m.mangle f.1 f.2 = .ok outs ∧ mapM' (recurseType k m) outs = .ok outs') →
      All2 (fun o w => ∀ o', recurseType k m o = .ok o' → recurseVal k m o w = .ok w) outss.flatten vals →
      mapM' (unmBody k m) (fs.zip (outss.zip (splitCounts (outss.map List.length) vals))) =
        mapM' (fun (p : FT × List Val) => U p.1.1 p.1.2 p.2) (fs.zip (splitCounts (outss.map List.length) vals))
  | [], outss, vals, h, _, _ => by simp [mapM']
  | f :: fs, outss, vals, h, hall, hrv => by
    obtain ⟨outs, outss', ho, hos, rfl⟩ := mapM'_cons_ok h
    simp only [List.flatten_cons] at hrv
    obtain ⟨hr1, hr2⟩ := All2.append_inv outs outss'.flatten vals hrv
    have ih := unmBody_groups hU k fs outss' (vals.drop outs.length) hos
      (fun g hg => hall g (by simp [hg])) hr2
    obtain ⟨outs0, outs', hm0, hrt⟩ := hall f (by simp)
    rw [ho] at hm0; cases hm0
    have hlen : (vals.take outs.length).length = outs.length := All2.length hr1
    have hv : mapM' (fun (p : FT × Val) => recurseVal k m p.1 p.2) (outs.zip (vals.take outs.length)) =
        .ok (vals.take outs.length) := by
      rw [mapM'_ok_of_forall _ (·.2) _ (fun p hp => by
        obtain ⟨o, w⟩ := p
        obtain ⟨o', ho'⟩ := mapM'_mem_ok hrt o (List.of_mem_zip hp).1
        exact All2.mem hr1 o w hp o' ho')]
      rw [map_snd_zip_eq outs _ hlen]
    have hbody : unmBody k m (f, outs, vals.take outs.length) = U f.1 f.2 (vals.take outs.length) := by
      simp only [unmBody, hlen, bne_self_eq_false, Bool.false_eq_true, if_false, hv, hrt, hU]
      rw [map_snd_zip_eq outs' _ (by rw [hlen, mapM'_length hrt])]
    simp only [List.map_cons, splitCounts, List.zip_cons_cons, mapM', hbody, ih]

theorem unmangleLayer_vals {m : Mangler} {U : Hdr → Ty → List Val → Outcome Val}
    (hU : ∀ h t (fvs : List (FT × Val)), m.unmangle h t fvs = U h t (fvs.map (·.2)))
    {fuel : Nat} {fs fs' : List FT} {outss : List (List FT)} {vals : List Val}
    (hm : mangleLayer fuel m fs = .ok fs')
    (ho : mapM' (fun (f : FT) => m.mangle f.1 f.2) fs = .ok outss)
    (hrv : All2 (fun o w => ∀ k o', recurseType k m o = .ok o' → recurseVal k m o w = .ok w) outss.flatten vals) :
    unmangleLayer fuel m fs vals =
      mapM' (fun (p : FT × List Val) => U p.1.1 p.1.2 p.2) (fs.zip (splitCounts (outss.map List.length) vals)) := by
  cases fuel with
  | zero => simp [mangleLayer] at hm
  | succ k =>
    obtain ⟨groups, hg, _⟩ := mangleLayer_succ_ok hm
    obtain ⟨_, _, _, hall⟩ := mangleLayer_groups k m fs groups hg
    rw [unmangleLayer_succ, ho]
    exact unmBody_groups hU k fs outss vals ho hall (All2.mono (fun _ _ h => h k) hrv)

/-- the `recurseType` hypothesis only rules out fuel `0` -/
theorem recurseVal_noRec {m : Mangler} {o : FT} (w : Val) (h : m.recurse = false ∨ structish o.2 = none) :
    ∀ (k : Nat) (o' : FT), recurseType k m o = .ok o' → recurseVal k m o w = .ok w
  | 0, _, ht => by simp [recurseType] at ht
  | k + 1, _, _ => recurseVal_id k m o w h

theorem mapM'_map {α β γ} (f : β → Outcome γ) (g : α → β) : ∀ (xs : List α),
    mapM' f (xs.map g) = mapM' (fun x => f (g x)) xs
  | [] => rfl
  | x :: xs => by simp only [List.map_cons, mapM', mapM'_map f g xs]

def soleOut (m : Mangler) (f : FT) : FT :=
  match m.mangle f.1 f.2 with
  | .ok [o] => o
  | _ => f

def firstVal (U : Ty → Val → Outcome Val) : Hdr → Ty → List Val → Outcome Val := fun _ t vs =>
  match vs with
  | [] => .panic "index out of range"
  | v :: _ => U t v

theorem mangleLayer_sole {m : Mangler} {T : Ty → Ty}
    (hmt : ∀ h t outs, m.mangle h t = .ok outs → ∃ h', outs = [(h', T t)])
    {fuel : Nat} {fs fs' : List FT} (hm : mangleLayer fuel m fs = .ok fs')
    (hleaf : ∀ f ∈ fs, structish (T f.2) = none) :
    mapM' (fun (f : FT) => m.mangle f.1 f.2) fs = .ok (fs.map fun f => [soleOut m f]) ∧
      fs' = fs.map (soleOut m) ∧ ∀ f ∈ fs, (soleOut m f).2 = T f.2 := by
  cases fuel with
  | zero => simp [mangleLayer] at hm
  | succ k =>
    obtain ⟨groups, hgr, rfl⟩ := mangleLayer_succ_ok hm
    obtain ⟨_, _, _, hall⟩ := mangleLayer_groups k m fs groups hgr
    have hg : ∀ f ∈ fs, m.mangle f.1 f.2 = .ok [soleOut m f] ∧ (soleOut m f).2 = T f.2 := by
      intro f hf
      obtain ⟨outs, _, ho, _⟩ := hall f hf
      obtain ⟨h', rfl⟩ := hmt f.1 f.2 outs ho
      simp only [soleOut, ho, and_self]
    have ho := mapM'_ok_of_forall (fun (f : FT) => m.mangle f.1 f.2) (fun f => [soleOut m f]) fs
      (fun f hf => (hg f hf).1)
    refine ⟨ho, ?_, fun f hf => (hg f hf).2⟩
    obtain ⟨h1, _⟩ := mangleLayer_noRec k m fs groups (Or.inr fun f hf outs hof o hoo => by
      obtain ⟨h', rfl⟩ := hmt f.1 f.2 outs hof
      cases List.mem_singleton.1 hoo
      exact hleaf f hf) hgr
    cases ho.symm.trans h1
    exact flatten_map_singleton (soleOut m) fs

theorem unmangleLayer_sole {m : Mangler} {T : Ty → Ty} {U : Ty → Val → Outcome Val}
    (hmt : ∀ h t outs, m.mangle h t = .ok outs → ∃ h', outs = [(h', T t)])
    (hun : ∀ h t (fvs : List (FT × Val)), m.unmangle h t fvs = firstVal U h t (fvs.map (·.2)))
    (fuel : Nat) (fs fs' : List FT) (vals : List Val) (hm : mangleLayer fuel m fs = .ok fs')
    (hleaf : ∀ f ∈ fs, structish (T f.2) = none) (hl : vals.length = fs.length) :
    unmangleLayer fuel m fs vals = mapM' (fun (p : FT × Val) => U p.1.2 p.2) (fs.zip vals) := by
  obtain ⟨ho, _, hty⟩ := mangleLayer_sole hmt hm hleaf
  have hrv : All2 (fun o w => ∀ k o', recurseType k m o = .ok o' → recurseVal k m o w = .ok w)
      (fs.map fun f => [soleOut m f]).flatten vals := by
    rw [flatten_map_singleton]
    apply All2.of_mem (by simpa using hl)
    intro o w hmem
    obtain ⟨f, hf, rfl⟩ := List.mem_map.1 (List.of_mem_zip hmem).1
    exact recurseVal_noRec w (Or.inr (hty f hf ▸ hleaf f hf))
  rw [unmangleLayer_vals hun hm ho hrv, List.map_map,
    show (List.length ∘ fun f => [soleOut m f]) = fun _ => 1 from rfl, List.map_const',
    splitCounts_ones fs.length vals hl, List.zip_map_right, mapM'_map]
  rfl

theorem mapM'_zip_snd (fs : List FT) (vals : List Val) (hl : vals.length = fs.length) :
    mapM' (fun (p : FT × Val) => Outcome.ok p.2) (fs.zip vals) = .ok vals := by
  rw [mapM'_ok_of_forall (fun (p : FT × Val) => Outcome.ok p.2) (·.2) _ (fun _ _ => rfl), map_snd_zip_eq fs vals hl]

def scUn (parse : String → Ty → Outcome Val) (t : Ty) (v : Val) : Outcome Val :=
  match v with
  | .nilv => .ok .nilv
  | .ptr (.s str) =>
    if !hasElemTy t then .err "cannot cast a string to a field that is not a pointer, slice or map" else
    match parse str (scCastTo t) with
    | .ok u => .ok (if scBoxed t then .ptr u else u)
    | .err c => .err c
    | .panic c => .panic c
  | _ => .panic "not a *string"

theorem stringCast_unmangle_eq (parse : String → Ty → Outcome Val) (h : Hdr) (t : Ty) (fvs : List (FT × Val)) :
    (stringCastMangler parse).unmangle h t fvs = firstVal (scUn parse) h t (fvs.map (·.2)) := by
  cases fvs with
  | nil => rfl
  | cons p r =>
    obtain ⟨o, v⟩ := p
    simp only [stringCastMangler, firstVal, List.map_cons, scUn]
    cases v with
    | ptr x =>
      cases x with
      | s str =>
        cases t with
        | ptr e => cases e <;> rfl
        | _ => rfl
      | _ => rfl
    | _ => rfl

theorem stringCast_mangle_ty (parse : String → Ty → Outcome Val) (h : Hdr) (t : Ty) (outs : List FT)
    (hm : (stringCastMangler parse).mangle h t = .ok outs) : ∃ h', outs = [(h', strPtrTy)] := by
  cases hm
  exact ⟨h, rfl⟩

theorem tagCopy_unmangle_eq (src new : String) (h : Hdr) (t : Ty) (fvs : List (FT × Val)) :
    (tagCopyMangler src new).unmangle h t fvs = firstVal (fun _ v => .ok v) h t (fvs.map (·.2)) := by
  cases fvs with
  | nil => rfl
  | cons p r => obtain ⟨o, v⟩ := p; rfl

theorem tagReformat_unmangle_eq (tag : String) (dec : List Char → Option (List (List Char)))
    (enc : CaseConv.Scheme) (h : Hdr) (t : Ty) (fvs : List (FT × Val)) :
    (tagReformatMangler tag dec enc).unmangle h t fvs = firstVal (fun _ v => .ok v) h t (fvs.map (·.2)) := by
  cases fvs with
  | nil => rfl
  | cons p r => obtain ⟨o, v⟩ := p; rfl

def popUn (fuel : Nat) (t : Ty) (vs : List Val) : Outcome Val :=
  match populate fuel t vs with
  | .ok (v, rest, _) =>
    if rest.isEmpty then .ok v else .err "number of input values not equal to number of struct fields"
  | .err c => .err c
  | .panic c => .panic c

theorem flatten_unmangle_eq (cfg : FlattenCfg) (fuelF : Nat) (h : Hdr) (t : Ty) (fvs : List (FT × Val)) :
    (flattenMangler cfg fuelF).unmangle h t fvs = popUn fuelF t (fvs.map (·.2)) := rfl

def popLayer (fuelF : Nat) (ts : List Ty) (lv : List Val) : Outcome (List Val) :=
  mapM' (fun (p : Ty × List Val) => popUn fuelF p.1 p.2) (ts.zip (splitCounts (ts.map leafN) lv))

theorem pop_groups (fuelF : Nat) : ∀ (fs1 : List FT) (vals : List Val),
    (∀ f ∈ fs1, tySize f.2 < fuelF) →
    vals.length = (fs1.map fun f => leafN f.2).sum →
    ∃ w1, popLayer fuelF (fs1.map (·.2)) vals = .ok w1 ∧
      ((fs1.zip w1).map fun p => flatLeaves fuelF p.1.2 p.2).flatten = vals ∧
      All2 (flattenGood fuelF) fs1 w1
  | [], vals, _, hl => by
    have : vals = [] := by simpa using hl
    subst this
    exact ⟨[], rfl, rfl, by simp⟩
  | f :: fs, vals, hd, hl => by
    simp only [List.map_cons, List.sum_cons] at hl
    have hl1 : (vals.take (leafN f.2)).length = leafN f.2 := by rw [List.length_take]; omega
    have hl2 : (vals.drop (leafN f.2)).length = (fs.map fun f => leafN f.2).sum := by
      rw [List.length_drop]; omega
    obtain ⟨v, hp, hfl, _⟩ := populate_spec fuelF f.2 (hd f (by simp)) (vals.take (leafN f.2)) [] hl1
    rw [List.append_nil] at hp
    obtain ⟨w, hw, hfw, hgw⟩ := pop_groups fuelF fs (vals.drop (leafN f.2))
      (fun g hg => hd g (by simp [hg])) hl2
    have h1 : popUn fuelF f.2 (vals.take (leafN f.2)) = .ok v := by
      simp only [popUn, hp, List.isEmpty_nil, if_true]
    refine ⟨v :: w, ?_, ?_, ?_⟩
    · simp only [popLayer] at hw
      simp only [popLayer, List.map_cons, splitCounts, List.zip_cons_cons, mapM', h1, hw]
    · simp only [List.zip_cons_cons, List.map_cons, List.flatten_cons, hfl, hfw, List.take_append_drop]
    · simp only [All2_cons]
      exact ⟨⟨_, _, hl1, hp⟩, hgw⟩

theorem flattenGood_spec {fuelF : Nat} {f : FT} {v : Val} (hsz : tySize f.2 < fuelF)
    (hg : flattenGood fuelF f v) :
    (flatLeaves fuelF f.2 v).length = leafN f.2 ∧
      ((∀ x ∈ flatLeaves fuelF f.2 v, x = Val.nilv) ↔ v = .nilv) := by
  obtain ⟨vals, a, hl, hp⟩ := hg
  obtain ⟨v', hp', hfl, hv⟩ := populate_spec fuelF f.2 hsz vals [] hl
  rw [List.append_nil, hp] at hp'
  cases hp'
  rw [hfl]
  refine ⟨hl, hv, ?_⟩
  intro hn
  subst hn
  rw [flatLeaves_nilv fuelF f.2 hsz] at hfl
  intro x hx
  rw [← hfl] at hx
  exact mem_nils hx

theorem flattenMangle_lengths (cfg : FlattenCfg) (fuelF : Nat) : ∀ (fs1 : List FT) (outss : List (List FT)),
    mapM' (fun (f : FT) => (flattenMangler cfg fuelF).mangle f.1 f.2) fs1 = .ok outss →
    outss.map List.length = fs1.map fun f => leafN f.2
  | [], outss, h => by simp [mapM'] at h; subst h; rfl
  | f :: fs, outss, h => by
    obtain ⟨outs, outss', ho, hos, rfl⟩ := mapM'_cons_ok h
    simp only [List.map_cons, flattenMangle_lengths cfg fuelF fs outss' hos]
    rw [flattenMangle_length cfg fuelF f.1 f.2 outs ho]

theorem mangleLayer_flatten (cfg : FlattenCfg) (fuelF fuel : Nat) (fs1 fs2 : List FT)
    (hm : mangleLayer fuel (flattenMangler cfg fuelF) fs1 = .ok fs2) :
    ∃ outss, mapM' (fun (f : FT) => (flattenMangler cfg fuelF).mangle f.1 f.2) fs1 = .ok outss ∧
      fs2 = outss.flatten ∧ outss.map List.length = fs1.map fun f => leafN f.2 := by
  cases fuel with
  | zero => simp [mangleLayer] at hm
  | succ k =>
    obtain ⟨groups, hgr, rfl⟩ := mangleLayer_succ_ok hm
    have h1 := (mangleLayer_noRec k _ fs1 groups (Or.inl rfl) hgr).1
    exact ⟨groups, h1, rfl, flattenMangle_lengths cfg fuelF fs1 groups h1⟩

theorem unmangleLayer_flatten (cfg : FlattenCfg) (fuelF fuel : Nat) (fs1 fs2 : List FT) (vals : List Val)
    (hm : mangleLayer fuel (flattenMangler cfg fuelF) fs1 = .ok fs2) (hl : vals.length = fs2.length) :
    unmangleLayer fuel (flattenMangler cfg fuelF) fs1 vals = popLayer fuelF (fs1.map (·.2)) vals := by
  obtain ⟨outss, ho, rfl, hlen⟩ := mangleLayer_flatten cfg fuelF fuel fs1 fs2 hm
  rw [unmangleLayer_vals (U := fun _ => popUn fuelF) (flatten_unmangle_eq cfg fuelF) hm ho
    (All2.of_mem hl (fun o w _ => recurseVal_noRec w (Or.inl rfl))), hlen, popLayer,
    List.map_map, List.zip_map_left, mapM'_map]
  rfl

mutual
/-- `orig`: the leaf's type with its pointers, the type of the field flatten emits for it; `p` is asked about that -/
def tyOK (q : Hdr → Bool) (p : Ty → Bool) : Ty → Ty → Bool
  | orig, .ptr e => tyOK q p orig e
  | _, .struct fs => fieldsOK q p fs
  | orig, _ => p orig
def fieldsOK (q : Hdr → Bool) (p : Ty → Bool) : Fields → Bool
  | .nil => true
  | .cons n tg a t r => q ⟨n, tg, a⟩ && tyOK q p t t && fieldsOK q p r
end

theorem tyOK_struct (q : Hdr → Bool) (p : Ty → Bool) (orig : Ty) : ∀ (t : Ty) (ifs : Fields),
    stripPtrs t = .struct ifs → tyOK q p orig t = fieldsOK q p ifs
  | .ptr e, ifs, h => by simp only [stripPtrs] at h; simp only [tyOK]; exact tyOK_struct q p orig e ifs h
  | .struct fs, ifs, h => by simp [stripPtrs] at h; subst h; simp [tyOK]
  | .basic _ _, _, h => by simp [stripPtrs] at h
  | .dur, _, h | .pdur, _, h | .tu _, _, h | .slice _, _, h | .array _ _, _, h | .map _ _, _, h
  | .set _, _, h => by simp [stripPtrs] at h

theorem tyOK_leaf (q : Hdr → Bool) (p : Ty → Bool) (orig : Ty) : ∀ (t : Ty),
    (∀ ifs, stripPtrs t ≠ .struct ifs) → tyOK q p orig t = p orig
  | .ptr e, h => by simp only [tyOK]; exact tyOK_leaf q p orig e (fun ifs h' => h ifs (by simpa [stripPtrs] using h'))
  | .struct fs, h => absurd rfl (h fs)
  | .basic _ _, _ => by simp [tyOK]
  | .dur, _ | .pdur, _ | .tu _, _ | .slice _, _ | .array _ _, _ | .map _ _, _ | .set _, _ => by simp [tyOK]

theorem fieldsOK_mem (q : Hdr → Bool) (p : Ty → Bool) : ∀ (fs : Fields), fieldsOK q p fs = true →
    ∀ f ∈ fs.toList, q f.1 = true ∧ tyOK q p f.2 f.2 = true
  | .nil, _, f, h => by simp [Fields.toList] at h
  | .cons n tg a t r, hg, f, h => by
    simp only [fieldsOK, Bool.and_eq_true] at hg
    simp only [Fields.toList, List.mem_cons] at h
    rcases h with h | h
    · subst h; exact ⟨hg.1.1, hg.1.2⟩
    · exact fieldsOK_mem q p r hg.2 f h

theorem flattenStruct_leafTy (cfg : FlattenCfg) (q : Hdr → Bool) (p : Ty → Bool) :
    ∀ (fuel : Nat) (names words path : List String) (fs : List FT) (outs : List FT),
    flattenStruct cfg fuel names words path fs = .ok outs → (∀ f ∈ fs, tyOK q p f.2 f.2 = true) →
    ∀ o ∈ outs, p o.2 = true
  | 0, _, _, _, _, _, h, _ => by simp [flattenStruct] at h
  | _ + 1, _, _, _, [], outs, h, _ => by
    simp [flattenStruct] at h; subst h; simp
  | fuel + 1, names, words, path, (nh, nt) :: rest, outs, h, hok => by
    simp only [flattenStruct] at h
    split at h
    · cases h
    · cases h
    · rename_i tags words' _
      split at h
      · rename_i a b ha hb
        cases h
        have hb' := flattenStruct_leafTy cfg q p fuel names words path rest b hb
          (fun f hf => hok f (by simp [hf]))
        have h0 := hok (nh, nt) (by simp)
        intro o ho
        rcases List.mem_append.1 ho with ho | ho
        · split at ha
          · rename_i ifs hs
            simp only at h0
            rw [tyOK_struct q p nt nt ifs hs] at h0
            exact flattenStruct_leafTy cfg q p fuel _ _ _ _ a ha
              (fun f hf => (fieldsOK_mem q p ifs h0 f hf).2) o ho
          · rename_i hs
            cases ha
            simp only [List.mem_singleton] at ho
            subst ho
            simp only at h0 ⊢
            rw [tyOK_leaf q p nt nt (fun ifs h => hs ifs h)] at h0
            exact h0
        · exact hb' o ho
      all_goals cases h

theorem flattenMangle_leafTy (cfg : FlattenCfg) (q : Hdr → Bool) (p : Ty → Bool) (fuel : Nat) (h : Hdr) (t : Ty)
    (outs : List FT) (hm : flattenMangle cfg fuel h t = .ok outs) (hok : tyOK q p t t = true) :
    ∀ o ∈ outs, p o.2 = true := by
  simp only [flattenMangle] at hm
  split at hm
  · cases hm
  · split at hm
    · cases hm
    · cases hm
    · split at hm
      · rename_i ifs hs
        rw [tyOK_struct q p t t ifs hs] at hok
        exact flattenStruct_leafTy cfg q p fuel _ _ _ _ outs hm (fun f hf => (fieldsOK_mem q p ifs hok f hf).2)
      · rename_i hs
        cases hm
        intro o ho
        simp only [List.mem_singleton] at ho
        subst ho
        rw [tyOK_leaf q p t t (fun ifs h => hs ifs h)] at hok
        exact hok

theorem mangleLayer_flatten_leafTy (cfg : FlattenCfg) (q : Hdr → Bool) (p : Ty → Bool) (fuelF fuel : Nat)
    (fs1 fs2 : List FT) (hm : mangleLayer fuel (flattenMangler cfg fuelF) fs1 = .ok fs2)
    (hok : ∀ f ∈ fs1, tyOK q p f.2 f.2 = true) : ∀ o ∈ fs2, p o.2 = true := by
  obtain ⟨outss, ho, rfl, _⟩ := mangleLayer_flatten cfg fuelF fuel fs1 fs2 hm
  intro o hmem
  obtain ⟨g, hg, hog⟩ := List.mem_flatten.1 hmem
  obtain ⟨f, hf, hfg⟩ := mapM'_mem_result ho g hg
  exact flattenMangle_leafTy cfg q p fuelF f.1 f.2 g hfg (hok f hf) o hog

def notAliased (tags : List String) : Hdr → Bool := fun h => !isAliased tags h

def leafTyOK : Ty → Bool := fun t => (structish t).isNone

/-- `structsBehindPtr` is needed by the alias layer, not by flatten: `populate` leaves an unset by-value struct as
`nilv`, which the recursing alias mangler's `recurseVal` rejects at a struct type (the `nilv` artefact of
`C16_env_value_struct_sibling_model_artefact`) -/
def EnvTy (tags : List String) (t : Ty) : Prop :=
  tyOK (notAliased tags) leafTyOK t t = true ∧ structsBehindPtr t = true

theorem ofList_toList : ∀ (fs : Fields), Fields.ofList fs.toList = fs
  | .nil => rfl
  | .cons n tg a t r => by simp [Fields.toList, Fields.ofList, ofList_toList r]

theorem EnvTy_fields {tags : List String} {ifs : Fields} (h : EnvTy tags (.ptr (.struct ifs))) :
    ∀ f ∈ ifs.toList, isAliased tags f.1 = false ∧ EnvTy tags f.2 := by
  obtain ⟨h1, h2⟩ := h
  simp only [tyOK] at h1
  simp only [structsBehindPtr, underPtr] at h2
  intro f hf
  obtain ⟨hq, ht⟩ := fieldsOK_mem _ _ ifs h1 f hf
  refine ⟨by simpa [notAliased] using hq, ht, fieldsBehindPtr_mem ifs h2 f hf⟩

theorem EnvTy_structish {tags : List String} {t : Ty} {ifs : Fields} {wrap : Ty → Ty} (h : EnvTy tags t)
    (hs : structish t = some (ifs, wrap)) : t = .ptr (.struct ifs) ∧ wrap = Ty.ptr := by
  obtain ⟨h1, h2⟩ := h
  rcases structish_some hs with rfl | rfl | rfl | ⟨n, rfl⟩
  · simp [structsBehindPtr] at h2
  · simp only [structish, Option.some.injEq, Prod.mk.injEq, true_and] at hs
    exact ⟨rfl, hs.symm⟩
  · simp [tyOK, leafTyOK, structish] at h1
  · simp [tyOK, leafTyOK, structish] at h1

def aliasCount (tags : List String) (f : FT) : Nat := if isAliased tags f.1 then 2 else 1

theorem mapM'_eq_self {α} {F : α → Outcome α} : ∀ {xs b : List α}, mapM' F xs = .ok b →
    (∀ x ∈ xs, ∀ y, F x = .ok y → y = x) → b = xs
  | [], b, h, _ => by simpa [mapM', eq_comm] using h
  | x :: xs, b, h, hx => by
    obtain ⟨c, cs, hc, hcs, rfl⟩ := mapM'_cons_ok h
    rw [hx x (by simp) c hc, mapM'_eq_self hcs (fun y hy => hx y (by simp [hy]))]

/-- `hrec` is `alias_rec_id` at fuel `k`, whose induction step uses this lemma -/
theorem alias_groups (tags : List String) (k : Nat)
    (hrec : ∀ (h : Hdr) (t : Ty) (o' : FT), recurseType k (aliasMangler tags) (h, t) = .ok o' →
      EnvTy tags t → o' = (h, t)) : ∀ (fs : List FT) (groups : List (List FT)),
    mapM' (fun (f : FT) =>
      match (aliasMangler tags).mangle f.1 f.2 with
      | .ok outs => mapM' (recurseType k (aliasMangler tags)) outs
      | .err c => .err c
      | .panic c => .panic c) fs = .ok groups →
    (∀ f ∈ fs, EnvTy tags f.2) →
    mapM' (fun (f : FT) => (aliasMangler tags).mangle f.1 f.2) fs = .ok groups
  | [], _, h, _ => h
  | f :: fs, groups, h, hty => by
    obtain ⟨b, bs, hb, hbs, rfl⟩ := mapM'_cons_ok h
    obtain ⟨outs, ho, _, hot⟩ := aliasMangle_width tags f
    have ho' : (aliasMangler tags).mangle f.1 f.2 = .ok outs := ho
    simp only [ho'] at hb
    cases mapM'_eq_self hb (fun o hoo o' ho' => hrec o.1 o.2 o' ho' (hot o hoo ▸ hty f (by simp)))
    simp only [mapM', ho', alias_groups tags k hrec fs bs hbs (fun g hg => hty g (by simp [hg]))]

theorem alias_rec_id (tags : List String) : ∀ (fuel : Nat),
    (∀ (fs r : List FT), mangleLayer fuel (aliasMangler tags) fs = .ok r →
      (∀ f ∈ fs, isAliased tags f.1 = false ∧ EnvTy tags f.2) → r = fs) ∧
    (∀ (h : Hdr) (t : Ty) (o' : FT), recurseType fuel (aliasMangler tags) (h, t) = .ok o' →
      EnvTy tags t → o' = (h, t))
  | 0 => by
    constructor
    · intro fs r hm; simp [mangleLayer] at hm
    · intro h t o' ht; simp [recurseType] at ht
  | fuel + 1 => by
    obtain ⟨ihP, ihQ⟩ := alias_rec_id tags fuel
    constructor
    · intro fs r hm hok
      obtain ⟨groups, hg, rfl⟩ := mangleLayer_succ_ok hm
      have h1 := alias_groups tags fuel ihQ fs groups hg (fun f hf => (hok f hf).2)
      rw [mapM'_ok_of_forall (fun (f : FT) => (aliasMangler tags).mangle f.1 f.2) (fun f => [f]) fs (fun f hf =>
        aliasMangle_of_not_aliased (hok f hf).1 f.2)] at h1
      cases h1
      simpa using flatten_map_singleton (fun (f : FT) => f) fs
    · intro h t o' ht hty
      cases hs : structish t with
      | none =>
        rw [recurseType_id fuel _ (h, t) (Or.inr hs)] at ht
        cases ht; rfl
      | some x =>
        obtain ⟨ifs, wrap⟩ := x
        obtain ⟨r, hr, rfl⟩ := recurseType_alias_struct hs ht
        obtain ⟨rfl, rfl⟩ := EnvTy_structish hty hs
        rw [ihP ifs.toList r hr (EnvTy_fields hty), ofList_toList]

def noAliasP (tags : List String) : Hdr → Ty → Val → Prop := fun h _ _ => isAliased tags h = false

theorem populate_fields_hered (tags : List String) (fuel : Nat)
    (ih : ∀ t, tySize t < fuel + 1 → EnvTy tags t → ∀ vals v rest a,
      populate (fuel + 1) t vals = .ok (v, rest, a) → Hered (noAliasP tags) t v) :
    ∀ (fs : List FT), (∀ f ∈ fs, tySize f.2 < fuel + 1 ∧ isAliased tags f.1 = false ∧ EnvTy tags f.2) →
    ∀ (fl : Nat) (vals acc : List Val) (any : Bool) (res rest' : List Val) (any' : Bool),
      populate.fields (fuel + 1) fl fs vals acc any = .ok (res, rest', any') →
      ∃ fvs, res = acc ++ fvs ∧ All2 (HG (noAliasP tags)) fs fvs := by
  intro fs
  induction fs with
  | nil =>
    intro _ fl vals acc any res rest' any' hp
    cases fl with
    | zero => unfold populate.fields at hp; cases hp
    | succ fl =>
      unfold populate.fields at hp
      cases hp
      exact ⟨[], by simp, by simp⟩
  | cons f fs ihfs =>
    intro hok fl vals acc any res rest' any' hp
    cases fl with
    | zero => unfold populate.fields at hp; cases hp
    | succ fl =>
      rw [populate_fields_step] at hp
      obtain ⟨hsz, hna, hty⟩ := hok f (by simp)
      cases hpf : populate (fuel + 1) f.2 vals with
      | ok x =>
        obtain ⟨v, vals', a⟩ := x
        rw [hpf] at hp
        simp only at hp
        obtain ⟨fvs, hres, hall⟩ := ihfs (fun g hg => hok g (by simp [hg])) fl vals' (acc ++ [v]) (any || a)
          res rest' any' hp
        refine ⟨v :: fvs, by rw [hres, List.append_assoc]; rfl, ?_⟩
        simp only [All2_cons]
        exact ⟨⟨hna, ih f.2 hsz hty vals v vals' a hpf⟩, hall⟩
      | err c => rw [hpf] at hp; cases hp
      | panic c => rw [hpf] at hp; cases hp

theorem populate_hered (tags : List String) : ∀ (fuel : Nat) (t : Ty), tySize t < fuel → EnvTy tags t →
    ∀ (vals : List Val) (v : Val) (rest : List Val) (a : Bool),
      populate fuel t vals = .ok (v, rest, a) → Hered (noAliasP tags) t v
  | 0, _, h, _ => by omega
  | 1, t, h, _ => by
    exfalso
    cases t <;> simp [tySize] at h
  | fuel + 2, t, h, hty => by
    intro vals v rest a hp
    cases hst : structish t with
    | none => exact Hered_of_not_structish _ hst v
    | some x =>
      obtain ⟨ifs, wrap⟩ := x
      obtain ⟨rfl, _⟩ := EnvTy_structish hty hst
      have hs : stripPtrs (.ptr (.struct ifs)) = .struct ifs := rfl
      rw [populate_struct hs] at hp
      have hflds : ∀ f ∈ ifs.toList, tySize f.2 < fuel + 1 ∧ isAliased tags f.1 = false ∧ EnvTy tags f.2 := by
        intro f hf
        have := tySize_field_lt hs hf
        obtain ⟨h1, h2⟩ := EnvTy_fields hty f hf
        exact ⟨by omega, h1, h2⟩
      cases hpf : populate.fields (fuel + 1) (ifs.toList.length + 1) ifs.toList vals [] false with
      | ok y =>
        obtain ⟨fvs, vals', any⟩ := y
        rw [hpf] at hp
        simp only at hp
        obtain ⟨fvs', hres, hall⟩ := populate_fields_hered tags fuel
          (fun t' h' hty' => populate_hered tags (fuel + 1) t' h' hty') ifs.toList hflds _ vals [] false
          fvs vals' any hpf
        rw [List.nil_append] at hres
        subst hres
        cases any with
        | true =>
          simp only [if_true, ptrDepth, Outcome.ok.injEq, Prod.mk.injEq] at hp
          obtain ⟨rfl, _, _⟩ := hp
          simp only [wrapPtrs, Hered_ptr_struct]
          exact All2_HeredFs _ ifs fvs hall
        | false =>
          simp only [Bool.false_eq_true, if_false, Outcome.ok.injEq, Prod.mk.injEq] at hp
          obtain ⟨rfl, _, _⟩ := hp
          simp [Hered]
      | err c => rw [hpf] at hp; cases hp
      | panic c => rw [hpf] at hp; cases hp

def losslessAliasNone (tags : List String) :
    Lossless (aliasMangler tags) (fun _ => True) (HG (noAliasP tags)) where
  enc := fun _ _ v => [v]
  len := fun f _ outs hm v hg => by
    cases (aliasMangle_of_not_aliased hg.1 f.2).symm.trans hm
    rfl
  inv := fun f _ outs hm v hg outs' hl => by
    cases (aliasMangle_of_not_aliased hg.1 f.2).symm.trans hm
    match outs', hl with
    | [o'], _ => rfl
  sub := fun _ f _ outs hm v hg o w hmem ifs wrap hst => by
    cases (aliasMangle_of_not_aliased hg.1 f.2).symm.trans hm
    cases List.mem_singleton.1 hmem
    exact HG_sub hst hg.2

theorem alias_recurseVal_id (tags : List String) (k : Nat) (o o' : FT) (w : Val)
    (ht : recurseType k (aliasMangler tags) o = .ok o') (hh : Hered (noAliasP tags) o.2 w) :
    recurseVal k (aliasMangler tags) o w = .ok w := by
  have hsh : (aliasMangler tags).recurse = true → ∀ ifs wrap, structish o.2 = some (ifs, wrap) →
      Shaped (All2 fun g x => True ∧ HG (noAliasP tags) g x) ifs o.2 w :=
    fun _ ifs wrap hs => HG_sub hs hh
  have e := (encLayer_id (losslessAliasNone tags) (fun _ _ _ => rfl) k).2 o o' w ht hsh
  have r := (unmangleLayer_encLayer (losslessAliasNone tags) k).2 o o' w ht hsh
  rw [e] at r
  exact r

def aliasPick : Hdr → Ty → List Val → Outcome Val := fun h t vs =>
  match vs with
  | [v] => .ok v
  | [v1, v2] =>
    if !isUnsetAt t v1 && !isUnsetAt t v2 then .err ("both alias and original set for field " ++ h.name)
    else if !isUnsetAt t v1 then .ok v1
    else if !isUnsetAt t v2 then .ok v2
    else .ok v1
  | _ => .err "expected 1 or 2 tuples"

theorem alias_unmangle_eq (tags : List String) (h : Hdr) (t : Ty) (fvs : List (FT × Val)) :
    (aliasMangler tags).unmangle h t fvs = aliasPick h t (fvs.map (·.2)) := by
  match fvs with
  | [] => rfl
  | [(_, _)] => rfl
  | [(_, _), (_, _)] => rfl
  | _ :: _ :: _ :: _ => rfl

theorem mangleLayer_alias_top (tags : List String) (fuel : Nat) (fs fs1 : List FT)
    (hm : mangleLayer fuel (aliasMangler tags) fs = .ok fs1) (hty : ∀ f ∈ fs, EnvTy tags f.2) :
    ∃ outss, mapM' (fun (f : FT) => (aliasMangler tags).mangle f.1 f.2) fs = .ok outss ∧ fs1 = outss.flatten ∧
      outss.map List.length = fs.map (aliasCount tags) := by
  cases fuel with
  | zero => simp [mangleLayer] at hm
  | succ k =>
    obtain ⟨groups, hg, rfl⟩ := mangleLayer_succ_ok hm
    have ho := alias_groups tags k (alias_rec_id tags k).2 fs groups hg hty
    obtain ⟨outss, ho', hlen⟩ := aliasMangle_layer tags fs
    cases ho.symm.trans ho'
    exact ⟨_, ho, rfl, hlen⟩

theorem unmangleLayer_alias_top (tags : List String) (fuel : Nat) (fs fs1 : List FT) (w1 : List Val)
    (hm : mangleLayer fuel (aliasMangler tags) fs = .ok fs1)
    (hty : ∀ f ∈ fs, EnvTy tags f.2)
    (hw : All2 (fun o w => Hered (noAliasP tags) o.2 w) fs1 w1) :
    unmangleLayer fuel (aliasMangler tags) fs w1 =
      mapM' (fun (p : FT × List Val) => aliasPick p.1.1 p.1.2 p.2)
        (fs.zip (splitCounts (fs.map (aliasCount tags)) w1)) := by
  obtain ⟨outss, ho, rfl, hlen⟩ := mangleLayer_alias_top tags fuel fs fs1 hm hty
  rw [unmangleLayer_vals (alias_unmangle_eq tags) hm ho
    (All2.mono (fun o w hh k o' ho' => alias_recurseVal_id tags k o o' w ho' hh) hw), hlen]

def envFillOne (pfx : String) (lookup : String → Option String) (f : FT) : Val :=
  match lookup (envKey pfx f) with
  | some txt => .ptr (.s txt)
  | none => .nilv

def envFill (pfx : String) (lookup : String → Option String) (tfs : List FT) : List Val :=
  tfs.map (envFillOne pfx lookup)

theorem envField_ok (pfx : String) (lookup : String → Option String) (f : FT)
    (htag : ∃ name, tagGet f.1.tags "dialsenv" = some name ∧ name ≠ "") :
    envField pfx lookup f = .ok (envFillOne pfx lookup f) := by
  obtain ⟨name, hg, hne⟩ := htag
  unfold envField
  split
  · next heq => rw [hg] at heq; cases heq
  · next heq => rw [hg] at heq; injection heq with heq; exact absurd heq hne
  · next name' _ heq =>
    rw [hg] at heq; injection heq with heq; subst heq
    simp only [envFillOne, envKey_of_tag hg]
    cases lookup (if pfx == "" then name else pfx ++ "_" ++ name) <;> rfl

def envLeaf (pfx : String) (lookup : String → Option String) (parse : String → Ty → Outcome Val) (f : FT) :
    Outcome Val :=
  match lookup (envKey pfx f) with
  | none => .ok .nilv
  | some txt =>
    match parse txt (scCastTo f.2) with
    | .ok u => .ok (if scBoxed f.2 then .ptr u else u)
    | .err c => .err c
    | .panic c => .panic c

def leafOf (parse : String → Ty → Outcome Val) (o : Option String) (t : Ty) : Outcome Val :=
  match o with
  | none => .ok .nilv
  | some txt =>
    match parse txt (scCastTo t) with
    | .ok u => .ok (if scBoxed t then .ptr u else u)
    | .err c => .err c
    | .panic c => .panic c

theorem mapM'_envLeaf (pfx : String) (lookup : String → Option String) (parse : String → Ty → Outcome Val)
    (fs4 : List FT) :
    mapM' (envLeaf pfx lookup parse) fs4 =
      mapM' (fun (p : Option String × Ty) => leafOf parse p.1 p.2)
        (fs4.map fun f => (lookup (envKey pfx f), f.2)) := by
  rw [mapM'_map]
  rfl

theorem parses_of_envLeaf_ok {pfx : String} {lookup : String → Option String} {parse : String → Ty → Outcome Val}
    {fs4 : List FT} {lv : List Val} (h : mapM' (envLeaf pfx lookup parse) fs4 = .ok lv) :
    ∀ f ∈ fs4, ∀ txt, lookup (envKey pfx f) = some txt → ∃ u, parse txt (scCastTo f.2) = .ok u := by
  intro f hf txt hl
  obtain ⟨b, hb⟩ := mapM'_mem_ok h f hf
  simp only [envLeaf, hl] at hb
  cases hp : parse txt (scCastTo f.2) with
  | ok u => exact ⟨u, rfl⟩
  | err c => rw [hp] at hb; cases hb
  | panic c => rw [hp] at hb; cases hb

theorem scUn_envFillOne (pfx : String) (lookup : String → Option String) (parse : String → Ty → Outcome Val)
    (f : FT) (hel : hasElemTy f.2 = true) :
    scUn parse f.2 (envFillOne pfx lookup (f.1, strPtrTy)) = envLeaf pfx lookup parse f := by
  have hk : envKey pfx (f.1, strPtrTy) = envKey pfx f := rfl
  simp only [envFillOne, envLeaf, hk]
  cases lookup (envKey pfx f) with
  | none => rfl
  | some txt => simp only [scUn, hel, Bool.not_true, Bool.false_eq_true, if_false]

theorem zip_map_self {α β} (g : α → β) : ∀ (xs : List α), xs.zip (xs.map g) = xs.map fun x => (x, g x)
  | [] => rfl
  | x :: xs => by simp only [List.map_cons, List.zip_cons_cons, zip_map_self g xs]

theorem scUn_envFill (pfx : String) (lookup : String → Option String) (parse : String → Ty → Outcome Val)
    (fs4 : List FT) (hel : ∀ f ∈ fs4, hasElemTy f.2 = true) :
    mapM' (fun (p : FT × Val) => scUn parse p.1.2 p.2)
        (fs4.zip (envFill pfx lookup (fs4.map fun f => (f.1, strPtrTy)))) =
      mapM' (envLeaf pfx lookup parse) fs4 := by
  rw [envFill, List.map_map, zip_map_self, mapM'_map]
  exact mapM'_congr _ _ fs4 (fun f hf => scUn_envFillOne pfx lookup parse f (hel f hf))

theorem reverse_cons_eq {fuel : Nat} {m : Mangler} {ms : List Mangler} {fs fs' : List FT} (vals : List Val)
    (hm : mangleLayer fuel m fs = .ok fs') :
    reverse fuel (m :: ms) fs vals = (reverse fuel ms fs' vals).bind (unmangleLayer fuel m fs) := by
  cases hl : layers fuel ms fs' with
  | ok ls =>
    have hl' : layers fuel (m :: ms) fs = .ok ((m, fs) :: ls) := by simp [layers, hm, hl]
    rw [reverse_eq fuel (m :: ms) fs vals _ hl', reverse_eq fuel ms fs' vals ls hl]
    simp only [reverseFold, List.foldr_cons]
    cases List.foldr (fun (l : Mangler × List FT) acc =>
      match acc with
      | .ok vs => unmangleLayer fuel l.1 l.2 vs
      | e => e) (Outcome.ok vals) ls <;> rfl
  | err c => simp [reverse, layers, hm, hl, Outcome.bind]
  | panic c => simp [reverse, layers, hm, hl, Outcome.bind]

theorem reverse_nil (fuel : Nat) (fs : List FT) (vals : List Val) : reverse fuel [] fs vals = .ok vals := rfl

/-- `C10_env_chain_is_shipped`: the env source's chain is this one at `tags = ["dials", "dialsenv"]`, … -/
def envChain (tags : List String) (cfg : FlattenCfg) (fuelF : Nat) (tag : String)
    (dec : List Char → Option (List (List Char))) (enc : CaseConv.Scheme) (src new : String)
    (parse : String → Ty → Outcome Val) : List Mangler :=
  [aliasMangler tags, flattenMangler cfg fuelF, tagReformatMangler tag dec enc, tagCopyMangler src new,
    stringCastMangler parse]

structure EnvLayers (tags : List String) (cfg : FlattenCfg) (fuelF fuel : Nat) (tag : String)
    (dec : List Char → Option (List (List Char))) (enc : CaseConv.Scheme) (src new : String)
    (parse : String → Ty → Outcome Val) (fs fs1 fs2 fs3 fs4 tfs : List FT) : Prop where
  h1 : mangleLayer fuel (aliasMangler tags) fs = .ok fs1
  h2 : mangleLayer fuel (flattenMangler cfg fuelF) fs1 = .ok fs2
  h3 : mangleLayer fuel (tagReformatMangler tag dec enc) fs2 = .ok fs3
  h4 : mangleLayer fuel (tagCopyMangler src new) fs3 = .ok fs4
  h5 : mangleLayer fuel (stringCastMangler parse) fs4 = .ok tfs

section Chain
variable {tags : List String} {cfg : FlattenCfg} {fuelF fuel : Nat} {tag : String}
  {dec : List Char → Option (List (List Char))} {enc : CaseConv.Scheme} {src new : String}
  {parse : String → Ty → Outcome Val} {fs fs1 fs2 fs3 fs4 tfs : List FT}

theorem EnvLayers.translate (L : EnvLayers tags cfg fuelF fuel tag dec enc src new parse fs fs1 fs2 fs3 fs4 tfs) :
    translate fuel (envChain tags cfg fuelF tag dec enc src new parse) fs = .ok tfs := by
  simp only [envChain, Tf.translate, L.h1, L.h2, L.h3, L.h4, L.h5]

theorem EnvLayers.of_translate
    (h : Tf.translate fuel (envChain tags cfg fuelF tag dec enc src new parse) fs = .ok tfs) :
    ∃ fs1 fs2 fs3 fs4, EnvLayers tags cfg fuelF fuel tag dec enc src new parse fs fs1 fs2 fs3 fs4 tfs := by
  obtain ⟨fs1, h1, h⟩ := translate_cons_ok h
  obtain ⟨fs2, h2, h⟩ := translate_cons_ok h
  obtain ⟨fs3, h3, h⟩ := translate_cons_ok h
  obtain ⟨fs4, h4, h⟩ := translate_cons_ok h
  obtain ⟨tfs', h5, h⟩ := translate_cons_ok h
  simp only [Tf.translate] at h
  cases h
  exact ⟨fs1, fs2, fs3, fs4, ⟨h1, h2, h3, h4, h5⟩⟩

theorem leaf_of_tys {gs gs' : List FT} (e : gs'.map (·.2) = gs.map (·.2)) (h : ∀ f ∈ gs, structish f.2 = none) :
    ∀ f ∈ gs', structish f.2 = none := by
  intro f hf
  have : f.2 ∈ gs'.map (·.2) := List.mem_map_of_mem hf
  rw [e] at this
  obtain ⟨g, hg, eg⟩ := List.mem_map.1 this
  exact eg ▸ h g hg

theorem EnvLayers.facts (L : EnvLayers tags cfg fuelF fuel tag dec enc src new parse fs fs1 fs2 fs3 fs4 tfs)
    (hty : ∀ f ∈ fs, EnvTy tags f.2) (hsz : ∀ f ∈ fs, tySize f.2 < fuelF) :
    (∀ o ∈ fs1, tySize o.2 < fuelF ∧ EnvTy tags o.2) ∧
    (∀ o ∈ fs2, structish o.2 = none) ∧
    fs3.map (·.2) = fs2.map (·.2) ∧
    fs4.map (·.2) = fs3.map (·.2) ∧
    tfs = fs4.map (fun f => (f.1, strPtrTy)) := by
  have hf1 : ∀ o ∈ fs1, tySize o.2 < fuelF ∧ EnvTy tags o.2 := by
    intro o ho
    obtain ⟨outss, hmo, rfl, _⟩ := mangleLayer_alias_top tags fuel fs fs1 L.h1 hty
    obtain ⟨g, hg, hog⟩ := List.mem_flatten.1 ho
    obtain ⟨f, hf, hfg⟩ := mapM'_mem_result hmo g hg
    obtain ⟨outs, ho', _, hot⟩ := aliasMangle_width tags f
    cases ho'.symm.trans hfg
    rw [hot o hog]
    exact ⟨hsz f hf, hty f hf⟩
  have hleaf2 : ∀ o ∈ fs2, structish o.2 = none := by
    intro o ho
    have := mangleLayer_flatten_leafTy cfg (notAliased tags) leafTyOK fuelF fuel fs1 fs2 L.h2
      (fun f hf => (hf1 f hf).2.1) o ho
    simpa [leafTyOK] using this
  obtain ⟨_, e3, ht3⟩ := mangleLayer_sole (T := id) (tagReformat_mangle_ty tag dec enc) L.h3 hleaf2
  have t3 : fs3.map (·.2) = fs2.map (·.2) := by rw [e3, List.map_map]; exact List.map_congr_left ht3
  obtain ⟨_, e4, ht4⟩ := mangleLayer_sole (T := id) (tagCopy_mangle_ty src new) L.h4
    (leaf_of_tys t3 hleaf2)
  obtain ⟨_, e5, _⟩ := mangleLayer_sole (T := fun _ => strPtrTy) (stringCast_mangle_ty parse) L.h5 (fun _ _ => rfl)
  exact ⟨hf1, hleaf2, t3, by rw [e4, List.map_map]; exact List.map_congr_left ht4, e5⟩

theorem EnvLayers.pop (L : EnvLayers tags cfg fuelF fuel tag dec enc src new parse fs fs1 fs2 fs3 fs4 tfs)
    (hty : ∀ f ∈ fs, EnvTy tags f.2) (hsz : ∀ f ∈ fs, tySize f.2 < fuelF)
    (lv : List Val) (hl : lv.length = fs4.length) :
    ∃ w1, popLayer fuelF (fs1.map (·.2)) lv = .ok w1 ∧
      ((fs1.zip w1).map fun p => flatLeaves fuelF p.1.2 p.2).flatten = lv ∧
      All2 (flattenGood fuelF) fs1 w1 := by
  obtain ⟨hf1, _, t3, t4, _⟩ := L.facts hty hsz
  obtain ⟨outss, _, e2, hlen⟩ := mangleLayer_flatten cfg fuelF fuel fs1 fs2 L.h2
  apply pop_groups fuelF fs1 lv (fun o ho => (hf1 o ho).1)
  rw [hl, ← List.length_map (as := fs4) (·.2), t4, t3, List.length_map, e2, List.length_flatten, hlen]

theorem reverse_envChain (L : EnvLayers tags cfg fuelF fuel tag dec enc src new parse fs fs1 fs2 fs3 fs4 tfs)
    (hty : ∀ f ∈ fs, EnvTy tags f.2) (hsz : ∀ f ∈ fs, tySize f.2 < fuelF)
    (fill : List Val) (hl : fill.length = tfs.length) :
    reverse fuel (envChain tags cfg fuelF tag dec enc src new parse) fs fill =
      (mapM' (fun (p : FT × Val) => scUn parse p.1.2 p.2) (fs4.zip fill)).bind fun lv =>
      (popLayer fuelF (fs1.map (·.2)) lv).bind fun w1 =>
      mapM' (fun (p : FT × List Val) => aliasPick p.1.1 p.1.2 p.2)
        (fs.zip (splitCounts (fs.map (aliasCount tags)) w1)) := by
  obtain ⟨hf1, hleaf2, t3, t4, e5⟩ := L.facts hty hsz
  have hl4 : fill.length = fs4.length := by rw [hl, e5, List.length_map]
  simp only [envChain]
  rw [reverse_cons_eq fill L.h1, reverse_cons_eq fill L.h2, reverse_cons_eq fill L.h3,
    reverse_cons_eq fill L.h4, reverse_cons_eq fill L.h5, reverse_nil]
  simp only [Outcome.bind]
  rw [unmangleLayer_sole (stringCast_mangle_ty parse) (stringCast_unmangle_eq parse) fuel fs4 tfs fill L.h5
    (fun _ _ => rfl) hl4]
  cases hc : mapM' (fun (p : FT × Val) => scUn parse p.1.2 p.2) (fs4.zip fill) with
  | err c => rfl
  | panic c => rfl
  | ok lv =>
    have hlv4 : lv.length = fs4.length := by
      rw [mapM'_length hc, List.length_zip, hl4, Nat.min_self]
    have hlv3 : lv.length = fs3.length := by rw [hlv4, ← List.length_map (as := fs4) (·.2), t4, List.length_map]
    have hlv2 : lv.length = fs2.length := by rw [hlv3, ← List.length_map (as := fs3) (·.2), t3, List.length_map]
    simp only
    rw [unmangleLayer_sole (T := id) (tagCopy_mangle_ty src new) (tagCopy_unmangle_eq src new) fuel fs3 fs4 lv L.h4
      (leaf_of_tys t3 hleaf2) hlv3, mapM'_zip_snd fs3 lv hlv3]
    simp only
    rw [unmangleLayer_sole (T := id) (tagReformat_mangle_ty tag dec enc) (tagReformat_unmangle_eq tag dec enc) fuel
      fs2 fs3 lv L.h3 hleaf2 hlv2, mapM'_zip_snd fs2 lv hlv2]
    simp only
    rw [unmangleLayer_flatten cfg fuelF fuel fs1 fs2 lv L.h2 hlv2]
    obtain ⟨w1, hw, _, hg⟩ := L.pop hty hsz lv hlv4
    rw [hw]
    apply unmangleLayer_alias_top tags fuel fs fs1 w1 L.h1 hty
    apply All2.of_mem (All2.length hg)
    intro o w hmem
    obtain ⟨vals, a, _, hp⟩ := All2.mem hg o w hmem
    have ho := hf1 o (List.of_mem_zip hmem).1
    exact populate_hered tags fuelF o.2 ho.1 ho.2 vals w [] a hp

theorem envValue_fill (fuel : Nat) (chain : List Mangler) (pfx : String) (fs tfs : List FT)
    (lookup : String → Option String) (ht : Tf.translate fuel chain fs = .ok tfs)
    (htags : ∀ f ∈ tfs, ∃ name, tagGet f.1.tags "dialsenv" = some name ∧ name ≠ "") :
    envValue fuel chain pfx fs lookup = reverse fuel chain fs (envFill pfx lookup tfs) := by
  rw [envValue_eq, ht]
  simp only
  rw [mapM'_ok_of_forall (envField pfx lookup) (envFillOne pfx lookup) tfs
    (fun f hf => envField_ok pfx lookup f (htags f hf))]
  rfl

theorem envValue_envChain (L : EnvLayers tags cfg fuelF fuel tag dec enc src new parse fs fs1 fs2 fs3 fs4 tfs)
    (hty : ∀ f ∈ fs, EnvTy tags f.2) (hsz : ∀ f ∈ fs, tySize f.2 < fuelF)
    (hel : ∀ f ∈ fs2, hasElemTy f.2 = true)
    (htags : ∀ f ∈ tfs, ∃ name, tagGet f.1.tags "dialsenv" = some name ∧ name ≠ "")
    (pfx : String) (lookup : String → Option String) :
    envValue fuel (envChain tags cfg fuelF tag dec enc src new parse) pfx fs lookup =
      (mapM' (envLeaf pfx lookup parse) fs4).bind fun lv =>
      (popLayer fuelF (fs1.map (·.2)) lv).bind fun w1 =>
      mapM' (fun (p : FT × List Val) => aliasPick p.1.1 p.1.2 p.2)
        (fs.zip (splitCounts (fs.map (aliasCount tags)) w1)) := by
  obtain ⟨_, _, t3, t4, e5⟩ := L.facts hty hsz
  rw [envValue_fill fuel _ pfx fs tfs lookup L.translate htags,
    reverse_envChain L hty hsz _ (by simp [envFill]), e5, scUn_envFill]
  intro f hf
  have : f.2 ∈ fs4.map (·.2) := List.mem_map_of_mem hf
  rw [t4, t3] at this
  obtain ⟨g, hg, e⟩ := List.mem_map.1 this
  exact e ▸ hel g hg

end Chain

end Dials.Tf
