/-
Lemmas for C02: `okV` survives any heap change that keeps the kind of every cell (`Kinded`), the deep copier
keeps the heap well-formed (`deepCopy_ok`), what a well-formed value reaches does not change when the heap is
extended (`reach_prefix`), the loop invariant of `composeH` (`CInv`), and which field-wise merges satisfy
`OverlayLocal`.
-/
import DialsModel.Lemmas.HeapCopy

namespace Dials.Heap

/-- arrays must not shrink: `okV` of a slice bounds its length by that of the backing array -/
structure Kinded (hp hp' : Heap) : Prop where
  val : ∀ (a : Nat) (v : HV), hp[a]? = some (Cell.val v) → ∃ v', hp'[a]? = some (Cell.val v')
  mapc : ∀ (a : Nat) (es : List (HV × HV)), hp[a]? = some (Cell.mapc es) → ∃ es', hp'[a]? = some (Cell.mapc es')
  arr : ∀ (a : Nat) (es : List HV), hp[a]? = some (Cell.arr es) →
    ∃ es', hp'[a]? = some (Cell.arr es') ∧ es.length ≤ es'.length

theorem Kinded.refl (hp : Heap) : Kinded hp hp :=
  ⟨fun _ v h => ⟨v, h⟩, fun _ es h => ⟨es, h⟩, fun _ es h => ⟨es, h, Nat.le_refl _⟩⟩

theorem Kinded.trans {h1 h2 h3 : Heap} (k1 : Kinded h1 h2) (k2 : Kinded h2 h3) : Kinded h1 h3 := by
  refine ⟨fun a v h => ?_, fun a es h => ?_, fun a es h => ?_⟩
  · obtain ⟨v', hv'⟩ := k1.val a v h; exact k2.val a v' hv'
  · obtain ⟨v', hv'⟩ := k1.mapc a es h; exact k2.mapc a v' hv'
  · obtain ⟨es', hv', hl⟩ := k1.arr a es h
    obtain ⟨es'', hv'', hl'⟩ := k2.arr a es' hv'
    exact ⟨es'', hv'', Nat.le_trans hl hl'⟩

theorem Kinded.of_prefix {hp hp' : Heap} (hag : ∀ a, a < hp.length → hp'[a]? = hp[a]?) : Kinded hp hp' := by
  refine ⟨fun a v h => ⟨v, ?_⟩, fun a es h => ⟨es, ?_⟩, fun a es h => ⟨es, ?_, Nat.le_refl _⟩⟩ <;>
    (rw [hag a (lt_of_getElem? h)]; exact h)

theorem Kinded.append (hp : Heap) (c : Cell) : Kinded hp (hp ++ [c]) :=
  Kinded.of_prefix fun a ha => by simp [List.getElem?_append_left ha]

def Cell.kindLe : Cell → Cell → Prop
  | .val _, .val _ => True
  | .mapc _, .mapc _ => True
  | .arr es, .arr es' => es.length ≤ es'.length
  | _, _ => False

theorem Cell.kindLe.refl (c : Cell) : c.kindLe c := by
  cases c <;> simp [Cell.kindLe]

theorem Kinded.of_kindLe {hp hp' : Heap} (H : ∀ (a : Nat) (c : Cell), hp[a]? = some c → ∃ c', hp'[a]? = some c' ∧ c.kindLe c') :
    Kinded hp hp' := by
  refine ⟨fun a v h => ?_, fun a es h => ?_, fun a es h => ?_⟩ <;>
    (obtain ⟨c', h', hle⟩ := H a _ h
     cases c' <;> first | exact ⟨_, h'⟩ | exact ⟨_, h', hle⟩ | exact hle.elim)

theorem Kinded.set {hp : Heap} {a : Nat} {c0 c : Cell} (h0 : hp[a]? = some c0) (hle : c0.kindLe c) :
    Kinded hp (hp.set a c) :=
  .of_kindLe fun b c1 hb => by
    by_cases hab : a = b
    · subst hab
      rw [h0] at hb; cases hb
      exact ⟨c, List.getElem?_set_self (lt_of_getElem? h0), hle⟩
    · exact ⟨c1, by rw [List.getElem?_set_ne hab]; exact hb, .refl c1⟩

theorem Kinded.addEntry (hp : Heap) (a : Nat) (k v : HV) : Kinded hp (addEntry hp a k v) := by
  unfold Dials.Heap.addEntry
  split
  · rename_i es he; exact .set he trivial
  · exact .refl _

theorem Kinded.setElem (hp : Heap) (a i : Nat) (v : HV) : Kinded hp (setElem hp a i v) := by
  unfold Dials.Heap.setElem
  split
  · rename_i es he; exact .set he (by simp [Cell.kindLe])
  · exact .refl _

mutual
theorem okV_kinded {hp hp' : Heap} (k : Kinded hp hp') : ∀ v, okV hp v = true → okV hp' v = true
  | .sc _, _ => rfl
  | .nil, _ => rfl
  | .ptr a, hk => by
    obtain ⟨v, hv⟩ := okV_ptr hk
    obtain ⟨v', hv'⟩ := k.val a v hv
    simp [okV, hv']
  | .mp a, hk => by
    obtain ⟨v, hv⟩ := okV_mp hk
    obtain ⟨v', hv'⟩ := k.mapc a v hv
    simp [okV, hv']
  | .sl a len, hk => by
    obtain ⟨es, hv⟩ := okV_sl hk
    obtain ⟨es', hv', hl⟩ := k.arr a es hv
    simp only [okV, hv, decide_eq_true_eq] at hk
    simp only [okV, hv', decide_eq_true_eq]
    omega
  | .st fs, hk => by
    simp only [okV] at hk ⊢; exact okFs_kinded k fs hk
  | .ar fs, hk => by
    simp only [okV] at hk ⊢; exact okFs_kinded k fs hk
  | .ifc d, hk => by
    simp only [okV] at hk ⊢; exact okV_kinded k d hk
theorem okFs_kinded {hp hp' : Heap} (k : Kinded hp hp') : ∀ fs, okFs hp fs = true → okFs hp' fs = true
  | .nil, _ => rfl
  | .cons _ v rest, hk => by
    simp only [okFs, Bool.and_eq_true] at hk ⊢
    exact ⟨okV_kinded k v hk.1, okFs_kinded k rest hk.2⟩
end

theorem okCell_kinded {hp hp' : Heap} (k : Kinded hp hp') (c : Cell) (hc : okCell hp c = true) :
    okCell hp' c = true := by
  cases c with
  | val v => simp only [okCell] at hc ⊢; exact okV_kinded k v hc
  | mapc es =>
    simp only [okCell, List.all_eq_true, Bool.and_eq_true] at hc ⊢
    exact fun p hp => ⟨okV_kinded k _ (hc p hp).1, okV_kinded k _ (hc p hp).2⟩
  | arr es =>
    simp only [okCell, List.all_eq_true] at hc ⊢
    exact fun p hp => okV_kinded k _ (hc p hp)

/-- the cell appended for a new pointee is still the placeholder when the run on the pointee returns, so
storing the copy into it keeps its kind -/
theorem Kinded.ptrNew {s s2 : CS} {pm mm t r} (hrun : Run0 { heap := s.heap ++ [.val .nil], pmemo := pm, mmemo := mm } t s2 r)
    (ht : t.tgt = none) (v' : HV) : Kinded s2.heap (setCell s2.heap s.heap.length (.val v')) := by
  have hk := (run_pres hrun).keep s.heap.length (by simp) (by simp [ht])
  exact .set (c0 := .val .nil) (by simpa using hk) trivial

theorem run0_kind {s t s' r} (hr : Run0 s t s' r) : Kinded s.heap s'.heap := by
  induction hr with
  | sc | nil | ptrHit | ptrDang | mpHit | mpDang | slDang | fsNil | entsNil | elemsNil => exact Kinded.refl _
  | ptrNew _ _ _ hrun ih => exact ((Kinded.append _ _).trans ih).trans (.ptrNew hrun rfl _)
  | mpNew _ _ _ _ ih | slNew _ _ _ ih => exact (Kinded.append _ _).trans ih
  | st _ ih | ar _ ih | ifc _ ih | fsConsU _ ih => exact ih
  | fsConsE _ _ ih1 ih2 => exact ih1.trans ih2
  | entsCons _ _ _ ih1 ih2 ih3 => exact ((ih1.trans ih2).trans (Kinded.addEntry ..)).trans ih3
  | elemsCons _ _ ih1 ih2 => exact (ih1.trans (Kinded.setElem ..)).trans ih2

theorem CellsOK.of_kinded {hp hp' : Heap} (hk : Kinded hp hp') (hc : CellsOK hp)
    (hnew : ∀ (a : Nat) (c : Cell), hp'[a]? = some c → hp[a]? = some c ∨ okCell hp' c = true) : CellsOK hp' := by
  intro a c hg
  rcases hnew a c hg with h1 | h1
  · exact okCell_kinded hk c (hc a c h1)
  · exact h1

theorem CellsOK.append {hp : Heap} (hc : CellsOK hp) {c : Cell} (hok : okCell (hp ++ [c]) c = true) :
    CellsOK (hp ++ [c]) := by
  exact CellsOK.of_kinded (Kinded.append hp c) hc fun a c' hg => (getElem?_append_cases hg).imp_right fun (e : c' = c) => e ▸ hok

theorem CellsOK.set {hp : Heap} (hc : CellsOK hp) {a : Nat} {c : Cell} (hk : Kinded hp (hp.set a c))
    (hok : okCell (hp.set a c) c = true) : CellsOK (hp.set a c) := by
  exact CellsOK.of_kinded hk hc fun b c' hg => (getElem?_set_cases hg).imp_right fun (e : c' = c) => e ▸ hok

theorem CellsOK.addEntry {hp : Heap} (hc : CellsOK hp) (a : Nat) {k v : HV} (hk : okV hp k = true)
    (hv : okV hp v = true) : CellsOK (addEntry hp a k v) := by
  have hkd := Kinded.addEntry hp a k v
  unfold Dials.Heap.addEntry at hkd ⊢
  split at hkd
  · rename_i es he
    refine hc.set hkd ?_
    simp only [okCell, List.all_eq_true, Bool.and_eq_true]
    intro p hp'
    rcases List.mem_append.mp hp' with h1 | h1
    · exact ⟨okV_kinded hkd _ (hc.mapc he p h1).1, okV_kinded hkd _ (hc.mapc he p h1).2⟩
    · cases List.mem_singleton.mp h1; exact ⟨okV_kinded hkd _ hk, okV_kinded hkd _ hv⟩
  · exact hc

theorem CellsOK.setElem {hp : Heap} (hc : CellsOK hp) (a i : Nat) {v : HV} (hv : okV hp v = true) :
    CellsOK (setElem hp a i v) := by
  have hkd := Kinded.setElem hp a i v
  unfold Dials.Heap.setElem at hkd ⊢
  split at hkd
  · rename_i es he
    refine hc.set hkd ?_
    simp only [okCell, List.all_eq_true]
    intro w hw
    rcases List.mem_or_eq_of_mem_set hw with h1 | h1
    · exact okV_kinded hkd _ (hc.arr he w h1)
    · exact h1 ▸ okV_kinded hkd _ hv
  · exact hc

structure WInv (s : CS) : Prop where
  cells : CellsOK s.heap
  pm : ∀ a a', lookup s.pmemo a = some a' → ∃ v, s.heap[a']? = some (Cell.val v)
  mm : ∀ a a', lookup s.mmemo a = some a' → ∃ es, s.heap[a']? = some (Cell.mapc es)

/-- unlike `okTask`, relative to the *current* heap -/
def okTaskC (hp : Heap) : Task → Prop
  | .v v => okV hp v = true
  | .fs fs => okFs hp fs = true
  | .ents _ es => ∀ p ∈ es, okV hp p.1 = true ∧ okV hp p.2 = true
  | .elems _ _ es => ∀ v ∈ es, okV hp v = true

def okRes (hp : Heap) : Res → Prop
  | .v v => okV hp v = true
  | .fs fs => okFs hp fs = true
  | .ents es => ∀ p ∈ es, okV hp p.1 = true ∧ okV hp p.2 = true
  | .elems es => ∀ v ∈ es, okV hp v = true

theorem WInv.heap {s : CS} (hi : WInv s) {hp : Heap} (hk : Kinded s.heap hp) (hc : CellsOK hp) :
    WInv { s with heap := hp } :=
  ⟨hc, fun a a' hl => (hi.pm a a' hl).elim fun _ hv => hk.val _ _ hv,
    fun a a' hl => (hi.mm a a' hl).elim fun _ hv => hk.mapc _ _ hv⟩

theorem WInv.append {s : CS} (hi : WInv s) {c : Cell} (hok : okCell (s.heap ++ [c]) c = true) {pm mm}
    (hp : ∀ a a', lookup pm a = some a' → lookup s.pmemo a = some a' ∨ a' = s.heap.length ∧ ∃ v, c = .val v)
    (hm : ∀ a a', lookup mm a = some a' → lookup s.mmemo a = some a' ∨ a' = s.heap.length ∧ ∃ es, c = .mapc es) :
    WInv { heap := s.heap ++ [c], pmemo := pm, mmemo := mm } := by
  have hk := Kinded.append s.heap c
  refine ⟨hi.cells.append hok, fun a a' hl => ?_, fun a a' hl => ?_⟩
  · rcases hp a a' hl with h1 | ⟨rfl, v, rfl⟩
    · exact (hi.pm a a' h1).elim fun _ hv => hk.val _ _ hv
    · exact ⟨v, List.getElem?_concat_length⟩
  · rcases hm a a' hl with h1 | ⟨rfl, es, rfl⟩
    · exact (hi.mm a a' h1).elim fun _ hv => hk.mapc _ _ hv
    · exact ⟨es, List.getElem?_concat_length⟩

theorem lookup_cons_cases {m : List (Nat × Nat)} {a b c c' : Nat} (h : lookup ((a, b) :: m) c = some c') :
    lookup m c = some c' ∨ c' = b := by
  rw [lookup_cons] at h
  split at h
  · cases h; exact .inr rfl
  · exact .inl h

theorem run0_ok {s t s' r} (hr : Run0 s t s' r) (hi : WInv s) (hk : okTaskC s.heap t) : WInv s' ∧ okRes s'.heap r := by
  induction hr with
  | sc | nil | fsNil => exact ⟨hi, rfl⟩
  | entsNil | elemsNil => exact ⟨hi, nofun⟩
  | ptrDang | mpDang | slDang => exact ⟨hi, hk⟩
  | ptrHit hl =>
    obtain ⟨v, hv⟩ := hi.pm _ _ hl
    exact ⟨hi, by simp [okRes, okV, hv]⟩
  | mpHit hl =>
    obtain ⟨v, hv⟩ := hi.mm _ _ hl
    exact ⟨hi, by simp [okRes, okV, hv]⟩
  | @ptrNew s a v s2 v' hl _ hv hrun ih =>
    obtain ⟨hi2, hv'⟩ := ih
      (hi.append (c := .val .nil) rfl (fun _ _ hb => (lookup_cons_cases hb).imp_right fun e => ⟨e, _, rfl⟩) fun _ _ hb => .inl hb)
      (okV_kinded (Kinded.append ..) v (hi.cells.val hv))
    have hlen : s.heap.length + 1 ≤ s2.heap.length := by simpa using (run_pres hrun).len
    have hk3 := Kinded.ptrNew hrun rfl v'
    exact ⟨hi2.heap hk3 (hi2.cells.set hk3 (okV_kinded hk3 v' hv')), by simp only [okRes, okV, setCell_eq _ _ hlen]⟩
  | @mpNew s a es s2 es' hl _ hv hrun ih =>
    have hka := Kinded.append s.heap (.mapc [])
    obtain ⟨hi2, _⟩ := ih
      (hi.append (c := .mapc []) rfl (fun _ _ hb => .inl hb) fun _ _ hb => (lookup_cons_cases hb).imp_right fun e => ⟨e, _, rfl⟩)
      (fun p hp => ⟨okV_kinded hka _ (hi.cells.mapc hv p hp).1, okV_kinded hka _ (hi.cells.mapc hv p hp).2⟩)
    obtain ⟨es2, he2⟩ := (run0_kind hrun).mapc s.heap.length [] List.getElem?_concat_length
    exact ⟨hi2, by simp [okRes, okV, he2]⟩
  | @slNew s a len es s2 es' _ hv hrun ih =>
    have hka := Kinded.append s.heap (.arr (es.map fun _ => .nil))
    obtain ⟨hi2, _⟩ := ih (hi.append (by simp [okCell, okV]) (fun _ _ hb => .inl hb) fun _ _ hb => .inl hb)
      (fun p hp => okV_kinded hka _ (hi.cells.arr hv p hp))
    obtain ⟨es2, he2, hl2⟩ := (run0_kind hrun).arr s.heap.length _ List.getElem?_concat_length
    refine ⟨hi2, ?_⟩
    simp only [okTaskC, okV, hv, decide_eq_true_eq] at hk
    simp only [List.length_map] at hl2
    simp only [okRes, okV, he2, decide_eq_true_eq]
    omega
  | st _ ih | ar _ ih | ifc _ ih => exact ih hi hk
  | @fsConsE _ _ rest _ v' _ _ h1 h2 ih1 ih2 =>
    simp only [okTaskC, okFs, Bool.and_eq_true] at hk
    obtain ⟨hi1, hv1⟩ := ih1 hi hk.1
    obtain ⟨hi2, hv2⟩ := ih2 hi1 (okFs_kinded (run0_kind h1) rest hk.2)
    exact ⟨hi2, by simp only [okRes, okFs, Bool.and_eq_true]; exact ⟨okV_kinded (run0_kind h2) v' hv1, hv2⟩⟩
  | @fsConsU _ v _ _ _ h2 ih =>
    simp only [okTaskC, okFs, Bool.and_eq_true] at hk
    obtain ⟨hi2, hv2⟩ := ih hi hk.2
    exact ⟨hi2, by simp only [okRes, okFs, Bool.and_eq_true]; exact ⟨okV_kinded (run0_kind h2) v hk.1, hv2⟩⟩
  | @entsCons _ a' _ v _ _ k' s2 v' _ _ h1 h2 h3 ih1 ih2 ih3 =>
    have hkv := hk _ (List.mem_cons_self ..)
    have k1 := run0_kind h1
    have k2 := run0_kind h2
    have kmid := Kinded.addEntry s2.heap a' k' v'
    obtain ⟨hi1, hk1⟩ := ih1 hi hkv.1
    obtain ⟨hi2, hv2⟩ := ih2 hi1 (okV_kinded k1 v hkv.2)
    have hk2 := okV_kinded k2 k' hk1
    have kall := (k1.trans k2).trans kmid
    obtain ⟨hi3, hr3⟩ := ih3 (hi2.heap kmid (hi2.cells.addEntry a' hk2 hv2)) fun p hp =>
      ⟨okV_kinded kall _ (hk p (List.mem_cons_of_mem _ hp)).1, okV_kinded kall _ (hk p (List.mem_cons_of_mem _ hp)).2⟩
    have k3 := kmid.trans (run0_kind h3)
    exact ⟨hi3, List.forall_mem_cons.mpr ⟨⟨okV_kinded k3 _ hk2, okV_kinded k3 _ hv2⟩, hr3⟩⟩
  | @elemsCons _ a' i _ _ s1 v' _ _ h1 h2 ih1 ih2 =>
    have kmid := Kinded.setElem s1.heap a' i v'
    obtain ⟨hi1, hv1⟩ := ih1 hi (hk _ (List.mem_cons_self ..))
    obtain ⟨hi2, hr2⟩ := ih2 (hi1.heap kmid (hi1.cells.setElem a' i hv1)) fun p hp =>
      okV_kinded ((run0_kind h1).trans kmid) _ (hk p (List.mem_cons_of_mem _ hp))
    exact ⟨hi2, List.forall_mem_cons.mpr ⟨okV_kinded (kmid.trans (run0_kind h2)) _ hv1, hr2⟩⟩

theorem deepCopy_ok {f : Nat} {h h' : Heap} {v v' : HV} (hh : HeapOK h = true) (hv : okV h v = true)
    (hc : deepCopy f h v = some (h', v')) : HeapOK h' = true ∧ okV h' v' = true := by
  obtain ⟨s', hr, rfl⟩ := deepCopy_run0 hc
  obtain ⟨hi, hres⟩ := run0_ok hr ⟨.of_heapOK hh, nofun, nofun⟩ hv
  exact ⟨hi.cells.to_heapOK, hres⟩

theorem reach_lt {hp : Heap} (hc : CellsOK hp) {v : HV} {a : Nat} (hr : ReachV hp v a) :
    okV hp v = true → a < hp.length := by
  refine ReachV.rec (h := hp) (motive_1 := fun v a _ => okV hp v = true → a < hp.length)
    (motive_2 := fun fs a _ => okFs hp fs = true → a < hp.length) ?_ ?_ ?_ ?_ ?_ ?_ ?_ ?_ ?_ ?_ ?_ ?_ hr
  · intro a hk; obtain ⟨v, hv⟩ := okV_ptr hk; exact lt_of_getElem? hv
  · intro a v b hg _ ih _; exact ih (hc.val hg)
  · intro a hk; obtain ⟨v, hv⟩ := okV_mp hk; exact lt_of_getElem? hv
  · intro a es k v b hg hmem _ ih _; exact ih (hc.mapc hg (k, v) hmem).1
  · intro a es k v b hg hmem _ ih _; exact ih (hc.mapc hg (k, v) hmem).2
  · intro a len hk; obtain ⟨v, hv⟩ := okV_sl hk; exact lt_of_getElem? hv
  · intro a len es v b hg hmem _ ih _; exact ih (hc.arr hg v hmem)
  · intro fs b _ ih hk; exact ih hk
  · intro fs b _ ih hk; exact ih hk
  · intro d b _ ih hk; exact ih hk
  · intro v rest b _ ih hk
    simp only [okFs, Bool.and_eq_true] at hk; exact ih hk.1
  · intro ex v rest b _ ih hk
    simp only [okFs, Bool.and_eq_true] at hk; exact ih hk.2

theorem reach_cell {hp : Heap} (hc : CellsOK hp) {v : HV} {a : Nat} (hr : ReachV hp v a) :
    okV hp v = true → ∀ c, hp[a]? = some c → inCell (fun x => ReachV hp v x) c := by
  refine ReachV.rec (h := hp)
    (motive_1 := fun v a _ => okV hp v = true → ∀ c, hp[a]? = some c → inCell (fun x => ReachV hp v x) c)
    (motive_2 := fun fs a _ => okFs hp fs = true → ∀ c, hp[a]? = some c → inCell (fun x => ReachFs hp fs x) c)
    ?_ ?_ ?_ ?_ ?_ ?_ ?_ ?_ ?_ ?_ ?_ ?_ hr
  · intro a hk c hg
    obtain ⟨w, hw⟩ := okV_ptr hk
    rw [hw] at hg; cases hg
    exact refs_reach hp _ w fun x hx => .ptrIn a w x hw hx
  · intro a w b hg _ ih _ c hgc
    exact inCell_mono (fun x hx => .ptrIn a w x hg hx) c (ih (hc.val hg) c hgc)
  · intro a hk c hg
    obtain ⟨es, hw⟩ := okV_mp hk
    rw [hw] at hg; cases hg
    intro p hp'
    exact ⟨refs_reach hp _ p.1 fun x hx => .mpKey a es p.1 p.2 x hw hp' hx,
      refs_reach hp _ p.2 fun x hx => .mpVal a es p.1 p.2 x hw hp' hx⟩
  · intro a es k w b hg hmem _ ih _ c hgc
    exact inCell_mono (fun x hx => .mpKey a es k w x hg hmem hx) c (ih (hc.mapc hg (k, w) hmem).1 c hgc)
  · intro a es k w b hg hmem _ ih _ c hgc
    exact inCell_mono (fun x hx => .mpVal a es k w x hg hmem hx) c (ih (hc.mapc hg (k, w) hmem).2 c hgc)
  · intro a len hk c hg
    obtain ⟨es, hw⟩ := okV_sl hk
    rw [hw] at hg; cases hg
    intro w hw'
    exact refs_reach hp _ w fun x hx => .slIn a len es w x hw hw' hx
  · intro a len es w b hg hmem _ ih _ c hgc
    exact inCell_mono (fun x hx => .slIn a len es w x hg hmem hx) c (ih (hc.arr hg w hmem) c hgc)
  · intro fs b _ ih hk c hgc
    exact inCell_mono (fun x hx => .st fs x hx) c (ih hk c hgc)
  · intro fs b _ ih hk c hgc
    exact inCell_mono (fun x hx => .ar fs x hx) c (ih hk c hgc)
  · intro d b _ ih hk c hgc
    exact inCell_mono (fun x hx => .ifc d x hx) c (ih hk c hgc)
  · intro w rest b _ ih hk c hgc
    simp only [okFs, Bool.and_eq_true] at hk
    exact inCell_mono (fun x hx => .here w rest x hx) c (ih hk.1 c hgc)
  · intro ex w rest b _ ih hk c hgc
    simp only [okFs, Bool.and_eq_true] at hk
    exact inCell_mono (fun x hx => .there ex w rest x hx) c (ih hk.2 c hgc)

/-- what `v` reaches in `hp` is a set closed in `hp'` too, because it consists of cells of `hp` -/
theorem reach_prefix {hp hp' : Heap} (hc : CellsOK hp) (hag : ∀ a, a < hp.length → hp'[a]? = hp[a]?)
    {v : HV} {a : Nat} (hr : ReachV hp' v a) (hk : okV hp v = true) : ReachV hp v a :=
  reach_in (P := fun x => ReachV hp v x)
    (fun x c hx hg => reach_cell hc hx hk c (by rw [← hag x (reach_lt hc hx hk)]; exact hg)) hr
    (refs_reach hp _ v fun _ hx => hx)

/-- `OverlayLocal` (Model/HeapSpec.lean) with `frame` and `reach` restricted to well-formed inputs -/
structure OverlayLocalWF (ov : Heap → HV → HV → Heap × HV) : Prop where
  grows : ∀ h b o, h.length ≤ (ov h b o).1.length
  frame : ∀ h b o mark, HeapOK h = true → okV h b = true → okV h o = true →
    (∀ a, ReachV h b a → mark ≤ a) → (∀ a, ReachV h o a → mark ≤ a) →
    ∀ a, a < mark → (ov h b o).1[a]? = h[a]?
  reach : ∀ h b o mark, HeapOK h = true → okV h b = true → okV h o = true → mark ≤ h.length →
    (∀ a, ReachV h b a → mark ≤ a) → (∀ a, ReachV h o a → mark ≤ a) →
    ∀ a, ReachV (ov h b o).1 (ov h b o).2 a → mark ≤ a
  wf : ∀ h b o, HeapOK h = true → okV h b = true → okV h o = true →
    HeapOK (ov h b o).1 = true ∧ okV (ov h b o).1 (ov h b o).2 = true

theorem OverlayLocal.toWF {ov : Heap → HV → HV → Heap × HV} (hov : OverlayLocal ov) : OverlayLocalWF ov :=
  ⟨hov.grows, fun h b o mark _ _ _ => hov.frame h b o mark, fun h b o mark _ _ _ => hov.reach h b o mark, hov.wf⟩

/-- the loop body of `composeH` with the generated fact F8b (`Facts.composeCopiesSources`) evaluated to `true`;
`composeH_eq` is `rfl` only as long as it and F8a (`Facts.composeCopiesDefaults`) are -/
def composeStep (ov : Heap → HV → HV → Heap × HV) (f : Nat) (acc : Option (Heap × HV)) (v : HV) :
    Option (Heap × HV) :=
  match acc with
  | none => none
  | some (h1, b) =>
    match deepCopy f h1 v with
    | none => none
    | some (h2, v') => some (ov h2 b v')

theorem composeH_eq (ov : Heap → HV → HV → Heap × HV) (f : Nat) (h : Heap) (d : HV) (vs : List HV) :
    composeH ov f h d vs = vs.foldl (composeStep ov f) (deepCopy f h d) := by
  rfl

structure CInv (h hi : Heap) (bi : HV) : Prop where
  len : h.length ≤ hi.length
  frozen : ∀ a, a < h.length → hi[a]? = h[a]?
  ok : HeapOK hi = true
  okb : okV hi bi = true
  fresh : ∀ a, ReachV hi bi a → h.length ≤ a

theorem CInv.start {f : Nat} {h h1 : Heap} {d b : HV} (hh : HeapOK h = true) (hd : okV h d = true)
    (hc : deepCopy f h d = some (h1, b)) : CInv h h1 b := by
  obtain ⟨hlen, hfr⟩ := deepCopy_frozen hc
  obtain ⟨hok, hokb⟩ := deepCopy_ok hh hd hc
  exact ⟨hlen, hfr, hok, hokb, deepCopy_fresh hh hd hc⟩

theorem CInv.step {ov : Heap → HV → HV → Heap × HV} (hov : OverlayLocalWF ov) {f : Nat} {h hi hj : Heap}
    {bi v v' : HV} (I : CInv h hi bi) (hv : okV h v = true) (hc : deepCopy f hi v = some (hj, v')) :
    CInv h (ov hj bi v').1 (ov hj bi v').2 := by
  have hvi : okV hi v = true := okV_kinded (Kinded.of_prefix I.frozen) v hv
  obtain ⟨hlen, hfr⟩ := deepCopy_frozen hc
  obtain ⟨hokj, hokv'⟩ := deepCopy_ok I.ok hvi hc
  have hfv' := deepCopy_fresh I.ok hvi hc
  have hokbj : okV hj bi = true := okV_kinded (Kinded.of_prefix hfr) bi I.okb
  have hrb : ∀ a, ReachV hj bi a → h.length ≤ a := fun a ha =>
    I.fresh a (reach_prefix (CellsOK.of_heapOK I.ok) hfr ha I.okb)
  have hrv : ∀ a, ReachV hj v' a → h.length ≤ a := fun a ha => Nat.le_trans I.len (hfv' a ha)
  have hmark : h.length ≤ hj.length := Nat.le_trans I.len hlen
  obtain ⟨hok', hokb'⟩ := hov.wf hj bi v' hokj hokbj hokv'
  refine ⟨Nat.le_trans hmark (hov.grows hj bi v'), fun a ha => ?_, hok', hokb',
    hov.reach hj bi v' h.length hokj hokbj hokv' hmark hrb hrv⟩
  rw [hov.frame hj bi v' h.length hokj hokbj hokv' hrb hrv a ha, hfr a (Nat.lt_of_lt_of_le ha I.len), I.frozen a ha]

theorem compose_fold {ov : Heap → HV → HV → Heap × HV} (hov : OverlayLocalWF ov) (f : Nat) (h : Heap) :
    ∀ (vs : List HV) (acc : Option (Heap × HV)), (∀ v ∈ vs, okV h v = true) →
      (∀ hi bi, acc = some (hi, bi) → CInv h hi bi) →
      ∀ h' r, vs.foldl (composeStep ov f) acc = some (h', r) → CInv h h' r := by
  intro vs
  induction vs with
  | nil => intro acc _ hacc h' r hf; exact hacc h' r hf
  | cons v vs ih =>
    intro acc hvs hacc h' r hf
    refine ih (composeStep ov f acc v) (fun w hw => hvs w (List.mem_cons_of_mem _ hw)) ?_ h' r hf
    intro hi bi hstep
    unfold composeStep at hstep
    split at hstep
    · cases hstep
    · split at hstep
      · cases hstep
      · have := (hacc _ _ rfl).step hov (hvs v (List.mem_cons_self ..)) ‹_›
        rwa [Option.some.inj hstep] at this

theorem compose_inv {ov : Heap → HV → HV → Heap × HV} (hov : OverlayLocalWF ov) {f : Nat} {h : Heap} {d : HV}
    {vs : List HV} (hh : HeapOK h = true) (hd : okV h d = true) (hvs : ∀ v ∈ vs, okV h v = true)
    {h' : Heap} {r : HV} (hc : composeH ov f h d vs = some (h', r)) : CInv h h' r := by
  rw [composeH_eq] at hc
  exact compose_fold hov f h vs (deepCopy f h d) hvs (fun hi bi hs => CInv.start hh hd hs) h' r hc

/-- `mergeFs` keeps the base's exported flag and ignores the overlay's, so it promotes the content of an
unexported overlay field into an exported position: the `reach` law of `OverlayLocal` fails. -/
theorem simpleOverlay_not_local : ¬ OverlayLocal simpleOverlay := by
  intro hov
  have hb : ∀ a, ReachV [Cell.val .nil] (.st (.cons true .nil .nil)) a → 1 ≤ a := by
    intro a hr
    cases hr with
    | st _ _ hfs =>
      cases hfs with
      | here _ _ _ hv => cases hv
      | there _ _ _ _ ht => cases ht
  have ho : ∀ a, ReachV [Cell.val .nil] (.st (.cons false (.ptr 0) .nil)) a → 1 ≤ a := by
    intro a hr
    cases hr with
    | st _ _ hfs =>
      cases hfs with
      | there _ _ _ _ ht => cases ht
  have := hov.reach [Cell.val .nil] (.st (.cons true .nil .nil)) (.st (.cons false (.ptr 0) .nil)) 1 (by simp) hb ho 0
    (.st _ _ (.here _ _ _ (.ptrHere 0)))
  omega

theorem okV_merge (h : Heap) :
    (∀ b o, okV h b = true → okV h o = true → okV h (mergeV b o) = true) ∧
    (∀ bs os, okFs h bs = true → okFs h os = true → okFs h (mergeFs bs os) = true) := by
  apply mergeV.mutual_induct
  · intro b hb _; rw [mergeV]; exact hb
  · intro bs os ih hb ho; simp only [mergeV, okV] at hb ho ⊢; exact ih hb ho
  · intro b o h1 h2 _ ho; rw [mergeV.eq_3 _ _ h1 h2]; exact ho
  · intro ex b bs ex' o os ih1 ih2 hb ho
    simp only [mergeFs, okFs, Bool.and_eq_true] at hb ho ⊢
    exact ⟨ih1 hb.1 ho.1, ih2 hb.2 ho.2⟩
  · intro bs os h1 hb _; rw [mergeFs.eq_2 _ _ h1]; exact hb

/-- the laws of `OverlayLocal` other than `reach` -/
theorem simpleOverlay_partial :
    (∀ h b o, h.length ≤ (simpleOverlay h b o).1.length) ∧
    (∀ h b o (mark : Nat), (∀ a, ReachV h b a → mark ≤ a) → (∀ a, ReachV h o a → mark ≤ a) →
      ∀ a, a < mark → (simpleOverlay h b o).1[a]? = h[a]?) ∧
    (∀ h b o, HeapOK h = true → okV h b = true → okV h o = true →
      HeapOK (simpleOverlay h b o).1 = true ∧ okV (simpleOverlay h b o).1 (simpleOverlay h b o).2 = true) :=
  ⟨fun _ _ _ => Nat.le_refl _, fun _ _ _ _ _ _ _ _ => rfl, fun h b o hh hb ho => ⟨hh, (okV_merge h).1 b o hb ho⟩⟩

theorem overlayLocal_keepBase : OverlayLocal (fun h b _ => (h, b)) :=
  ⟨fun _ _ _ => Nat.le_refl _, fun _ _ _ _ _ _ _ _ => rfl, fun _ _ _ _ _ hb _ a ha => hb a ha,
    fun _ _ _ hh hb _ => ⟨hh, hb⟩⟩

mutual
/-- `mergeV` repaired: a field is merged only when base and overlay agree on its exported flag -/
def mergeV' : HV → HV → HV
  | b, .nil => b
  | .st bs, .st os => .st (mergeFs' bs os)
  | _, o => o
def mergeFs' : HFs → HFs → HFs
  | .cons ex b bs, .cons ex' o os => .cons ex (if ex = ex' then mergeV' b o else b) (mergeFs' bs os)
  | bs, _ => bs
end

def simpleOverlay' (h : Heap) (b o : HV) : Heap × HV := (h, mergeV' b o)

theorem okV_merge' (h : Heap) :
    (∀ b o, okV h b = true → okV h o = true → okV h (mergeV' b o) = true) ∧
    (∀ bs os, okFs h bs = true → okFs h os = true → okFs h (mergeFs' bs os) = true) := by
  apply mergeV'.mutual_induct
  · intro b hb _; rw [mergeV']; exact hb
  · intro bs os ih hb ho; simp only [mergeV', okV] at hb ho ⊢; exact ih hb ho
  · intro b o h1 h2 _ ho; rw [mergeV'.eq_3 _ _ h1 h2]; exact ho
  · intro ex b bs ex' o os ih1 ih2 hb ho
    simp only [mergeFs', okFs, Bool.and_eq_true] at hb ho ⊢
    refine ⟨?_, ih2 hb.2 ho.2⟩
    split
    · exact ih1 hb.1 ho.1
    · exact hb.1
  · intro bs os h1 hb _; rw [mergeFs'.eq_2 _ _ h1]; exact hb

theorem reach_merge' (h : Heap) (a : Nat) :
    (∀ b o, ReachV h (mergeV' b o) a → ReachV h b a ∨ ReachV h o a) ∧
    (∀ bs os, ReachFs h (mergeFs' bs os) a → ReachFs h bs a ∨ ReachFs h os a) := by
  apply mergeV'.mutual_induct
  · intro b hr; rw [mergeV'] at hr; exact .inl hr
  · intro bs os ih hr
    simp only [mergeV'] at hr
    cases hr with
    | st _ _ hfs => exact (ih hfs).imp (.st _ _) (.st _ _)
  · intro b o h1 h2 hr; rw [mergeV'.eq_3 _ _ h1 h2] at hr; exact .inr hr
  · intro ex b bs ex' o os ih1 ih2 hr
    simp only [mergeFs'] at hr
    cases hr with
    | here _ _ _ hv =>
      cases ex' with
      | false => exact .inl (.here _ _ _ (by simpa using hv))
      | true => exact (ih1 (by simpa using hv)).imp (.here _ _ _) (.here _ _ _)
    | there _ _ _ _ ht => exact (ih2 ht).imp (.there _ _ _ _) (.there _ _ _ _)
  · intro bs os h1 hr; rw [mergeFs'.eq_2 _ _ h1] at hr; exact .inl hr

theorem overlayLocal_simpleOverlay' : OverlayLocal simpleOverlay' :=
  ⟨fun _ _ _ => Nat.le_refl _, fun _ _ _ _ _ _ _ _ => rfl,
    fun h b o _ _ hb ho a ha => ((reach_merge' h a).1 b o ha).elim (hb a) (ho a),
    fun h b o hh hb ho => ⟨hh, (okV_merge' h).1 b o hb ho⟩⟩

end Dials.Heap
