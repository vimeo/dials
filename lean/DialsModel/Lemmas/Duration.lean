/-
Lemmas about the Duration.String / ParseDuration models (Model/Duration.lean): the printed form of every int64
duration parses back to it.  What Duration.String prints is a list of GROUPS (integer digits, fmtFrac's fraction, a unit
name); `parseComp_group` reads one group back, `parseLoop_groups` a list of them, and `fmtDurationNat_groups` says which
groups are printed for a magnitude.
-/
import DialsModel.Model.Duration
import DialsModel.Lemmas.Parse

namespace Dials.Parse
open Dials

theorem leadDigits_digit (d : Nat) (hd : d < 10) (cs : Str) (v k : Nat) :
    leadDigits (digit d :: cs) v k = leadDigits cs (v * 10 + d) (k + 1) := by
  simp [leadDigits, digit_isDigit d hd, digit_toNat d hd]

/-- where digit reading stops: the end of the text or a character that is no digit -/
def StopsDigits : Str → Prop
  | [] => True
  | c :: _ => isDigitA c = false

theorem leadDigits_stops (rest : Str) (h : StopsDigits rest) (v k : Nat) : leadDigits rest v k = (v, k, rest) := by
  cases rest with
  | nil => rfl
  | cons c cs => simp [leadDigits, show isDigitA c = false from h]

theorem leadDigits_formatNat (n : Nat) : ∀ (v k : Nat) (rest : Str),
    leadDigits (formatNat n ++ rest) v k
      = leadDigits rest (v * 10 ^ (formatNat n).length + n) (k + (formatNat n).length) := by
  induction n using decimal_induction with
  | lt n h => intro v k rest; simp [formatNat_lt n h, leadDigits_digit n h]
  | ge n h ih =>
    intro v k rest
    rw [formatNat_ge n h, List.append_assoc, ih]
    simp only [List.singleton_append, leadDigits_digit (n % 10) (by omega), List.length_append, List.length_singleton]
    congr 1
    rw [Nat.pow_succ]
    generalize 10 ^ (formatNat (n / 10)).length = P
    rw [Nat.add_mul, Nat.mul_assoc]
    omega

theorem leadDigits_fullDigits (p : Nat) : ∀ (v a k : Nat) (rest : Str),
    leadDigits (fullDigits p v ++ rest) a k = leadDigits rest (a * 10 ^ p + v % 10 ^ p) (k + p) := by
  induction p with
  | zero => intro v a k rest; simp [fullDigits, Nat.mod_one]
  | succ p ih =>
    intro v a k rest
    rw [show fullDigits (p + 1) v = fullDigits p (v / 10) ++ [digit (v % 10)] from rfl, List.append_assoc, ih]
    simp only [List.singleton_append, leadDigits_digit (v % 10) (by omega)]
    rw [shift_digit 10 a v p, Nat.add_assoc]

/-- fmtFrac's digits are read back as a numerator `f` over `10^k` with `f * 10^(p-k)` the printed fraction -/
theorem trimDigits_read (p : Nat) : ∀ v, v % 10 ^ p ≠ 0 →
    ∃ k f, 0 < k ∧ k ≤ p ∧ 0 < f ∧ f * 10 ^ (p - k) = v % 10 ^ p ∧ trimDigits p v ≠ [] ∧
      ∀ (rest : Str), StopsDigits rest → leadDigits (trimDigits p v ++ rest) 0 0 = (f, k, rest) := by
  induction p with
  | zero => intro v h; simp [Nat.mod_one] at h
  | succ p ih =>
    intro v h
    have hm := mod_pow_succ 10 v p
    by_cases h0 : v % 10 = 0
    · obtain ⟨k, f, hk0, hkp, hf, hval, hnil, hread⟩ := ih (v / 10) (by omega)
      refine ⟨k, f, hk0, by omega, hf, ?_, by simpa [trimDigits, h0] using hnil, by simpa [trimDigits, h0] using hread⟩
      rw [hm, h0, ← hval, show p + 1 - k = (p - k) + 1 by omega, Nat.pow_succ]
      generalize 10 ^ (p - k) = P
      rw [← Nat.mul_assoc]
      omega
    · refine ⟨p + 1, v % 10 ^ (p + 1), by omega, by omega, Nat.pos_of_ne_zero h, by simp, by simp [trimDigits, h0, fullDigits], ?_⟩
      intro rest hs
      simp only [trimDigits, h0, if_false]
      rw [leadDigits_fullDigits, leadDigits_stops rest hs]
      simp

theorem trimDigits_zero (p : Nat) : ∀ v, v % 10 ^ p = 0 → trimDigits p v = [] := by
  induction p with
  | zero => intro v _; rfl
  | succ p ih =>
    intro v h
    have hm := mod_pow_succ 10 v p
    simp [trimDigits, show v % 10 = 0 by omega, ih (v / 10) (by omega)]

/-- where a unit stops: the end of the text, a digit or a period -/
def StopsUnit : Str → Prop
  | [] => True
  | c :: _ => (c == '.' || isDigitA c) = true

structure UnitSpec where
  name : Str
  unit : Nat
  p : Nat          -- decimal places Duration.String prints below this unit (0: none)

def UnitSpec.ok (U : UnitSpec) : Prop :=
  unitOf U.name = some U.unit ∧ (U.p = 0 ∨ U.unit = 10 ^ U.p) ∧ U.p ≤ 9 ∧ 0 < U.unit ∧
  (∃ c cs, U.name = c :: cs ∧ isDigitA c = false ∧ (c == '.') = false) ∧
  (∀ rest, StopsUnit rest → spanUnit (U.name ++ rest) = (U.name, rest))

theorem spanUnit_name (name rest : Str) (hn : name.all (fun c => !(c == '.' || isDigitA c)) = true) (h : StopsUnit rest) :
    spanUnit (name ++ rest) = (name, rest) := by
  induction name with
  | nil =>
    cases rest with
    | nil => rfl
    | cons c cs => simp [spanUnit, show (c == '.' || isDigitA c) = true from h]
  | cons c cs ih =>
    simp only [List.all_cons, Bool.and_eq_true, Bool.not_eq_true'] at hn
    simp [spanUnit, hn.1, ih hn.2]

/-- the decidable part of `UnitSpec.ok` -/
theorem UnitSpec.ok_of_decide (U : UnitSpec)
    (h : unitOf U.name = some U.unit ∧ (U.p = 0 ∨ U.unit = 10 ^ U.p) ∧ U.p ≤ 9 ∧ 0 < U.unit ∧ U.name ≠ [] ∧
      U.name.all (fun c => !(c == '.' || isDigitA c)) = true) : U.ok := by
  obtain ⟨h1, h2, h3, h4, h5, h6⟩ := h
  refine ⟨h1, h2, h3, h4, ?_, fun rest => spanUnit_name _ rest h6⟩
  cases hn : U.name with
  | nil => exact absurd hn h5
  | cons c cs =>
    simp only [hn, List.all_cons, Bool.and_eq_true, Bool.not_eq_true', Bool.or_eq_false_iff] at h6
    exact ⟨c, cs, rfl, h6.1.2, h6.1.1⟩

def uNs : UnitSpec := ⟨['n', 's'], 1, 0⟩
def uUs : UnitSpec := ⟨microSign ++ ['s'], 1000, 3⟩
def uMs : UnitSpec := ⟨['m', 's'], 1000000, 6⟩
def uS : UnitSpec := ⟨['s'], 1000000000, 9⟩
def uM : UnitSpec := ⟨['m'], 60000000000, 0⟩
def uH : UnitSpec := ⟨['h'], 3600000000000, 0⟩

theorem uNs_ok : uNs.ok := uNs.ok_of_decide (by decide)
theorem uUs_ok : uUs.ok := uUs.ok_of_decide (by decide)
theorem uMs_ok : uMs.ok := uMs.ok_of_decide (by decide)
theorem uS_ok : uS.ok := uS.ok_of_decide (by decide)
theorem uM_ok : uM.ok := uM.ok_of_decide (by decide)
theorem uH_ok : uH.ok := uH.ok_of_decide (by decide)

/-- a printed group - integer digits, fmtFrac's fraction, the unit - is parsed as its value -/
theorem parseComp_group (U : UnitSpec) (hU : U.ok) (v u : Nat) (rest : Str) (hr : StopsUnit rest)
    (hb : v * U.unit + u % 10 ^ U.p * (U.unit / 10 ^ U.p) ≤ two63) :
    parseComp (formatNat v ++ fracStr U.p u ++ U.name ++ rest)
      = .ok (v * U.unit + u % 10 ^ U.p * (U.unit / 10 ^ U.p)) rest := by
  obtain ⟨hunit, hp, hp9, hpos, ⟨c, cs, hname, hcd, hcp⟩, hspan⟩ := hU
  obtain ⟨d, r, hfmt, hd, _⟩ := formatNat_shape v
  have hv63 : ¬ v > two63 := by
    have : v * 1 ≤ v * U.unit := Nat.mul_le_mul_left v hpos
    omega
  have hvdiv : ¬ v > two63 / U.unit := by
    have := (Nat.le_div_iff_mul_le hpos).2 (show v * U.unit ≤ two63 by omega)
    omega
  have hstopName : StopsDigits (U.name ++ rest) := by rw [hname]; exact hcd
  -- the integer digits are read up to the tail `t`, which is the fraction (if one is printed) and the unit
  have hint : ∀ t, StopsDigits t → formatNat v ++ t = digit d :: (r ++ t) ∧
      ∃ k1, (k1 != 0) = true ∧ leadDigits (digit d :: (r ++ t)) 0 0 = (v, k1, t) := by
    intro t ht
    have htext : formatNat v ++ t = digit d :: (r ++ t) := by rw [hfmt]; rfl
    refine ⟨htext, 0 + (formatNat v).length, by simp [hfmt], ?_⟩
    rw [← htext, leadDigits_formatNat, leadDigits_stops t ht, Nat.zero_mul, Nat.zero_add]
  by_cases hz : u % 10 ^ U.p = 0
  · -- no fraction printed
    obtain ⟨htext, k1, hk1, hread⟩ := hint _ hstopName
    rw [show fracStr U.p u = [] by simp [fracStr, trimDigits_zero U.p u hz], List.append_nil, List.append_assoc, htext]
    simp only [parseComp, digit_isDigit d hd, Bool.or_true, Bool.not_true, Bool.false_eq_true, if_false, hread, hv63, hk1]
    simp only [hname, List.cons_append, hcp, Bool.false_eq_true, if_false]
    rw [← List.cons_append, ← hname, hspan rest hr]
    simp [hname, hz]
    rw [← hname, hunit]
    simp [hvdiv]
  · -- a fraction: the unit is 10^p
    have hu10 : U.unit = 10 ^ U.p := hp.resolve_left fun h0 => hz (by rw [h0]; exact Nat.mod_one _)
    obtain ⟨k, f, hk0, hkp, hf, hval, hnil, hreadf⟩ := trimDigits_read U.p u hz
    obtain ⟨htext, k1, hk1, hread⟩ := hint ('.' :: (trimDigits U.p u ++ (U.name ++ rest))) (by show isDigitA '.' = false; decide)
    have hdiv1 : U.unit / 10 ^ U.p = 1 := by rw [hu10]; exact Nat.div_self (Nat.pow_pos (by decide))
    have hdivk : U.unit / 10 ^ k = 10 ^ (U.p - k) := by rw [hu10]; exact Nat.pow_div hkp (by decide)
    have hmodk : U.unit % 10 ^ k = 0 := by
      rw [hu10]; exact Nat.mod_eq_zero_of_dvd (Nat.pow_dvd_pow 10 hkp)
    rw [hdiv1, Nat.mul_one] at hb ⊢
    rw [show fracStr U.p u = '.' :: trimDigits U.p u by simp [fracStr, hnil], List.append_assoc, List.append_assoc,
      List.cons_append, htext]
    simp only [parseComp, digit_isDigit d hd, Bool.or_true, Bool.not_true, Bool.false_eq_true, if_false, hread, hv63, hk1,
      beq_self_eq_true, if_true, hreadf (U.name ++ rest) hstopName, hspan rest hr]
    simp [hname, hf, show ¬ 18 < k by omega]
    rw [← hname, hunit]
    simp [hvdiv, hmodk, hdivk, hval, show ¬ v * U.unit + u % 10 ^ U.p > two63 from by omega]

/-- a group as Duration.String prints it: the unit, the integer part, and the number whose `U.p` low digits are the
fraction -/
structure Group where
  U : UnitSpec
  v : Nat
  u : Nat

def Group.text (g : Group) : Str := formatNat g.v ++ fracStr g.U.p g.u ++ g.U.name

def Group.value (g : Group) : Nat := g.v * g.U.unit + g.u % 10 ^ g.U.p * (g.U.unit / 10 ^ g.U.p)

/-- the total of the groups; a recursion of its own on `Nat` and not `List.sum`, whose generic `0` and `+` make the unifier
evaluate the products with the large unit constants next to them -/
def groupsValue : List Group → Nat
  | [] => 0
  | g :: gs => g.value + groupsValue gs

/-- printed groups begin with a digit: a second character follows, and a unit before them ends there -/
theorem groups_head (g : Group) (hg : g.U.ok) (gs : List Group) :
    ∃ d rest, (g :: gs).flatMap Group.text = digit d :: rest ∧ d < 10 ∧ rest ≠ [] := by
  obtain ⟨d, r, he, hd, _⟩ := formatNat_shape g.v
  obtain ⟨_, _, _, _, ⟨c, cs, hname, _⟩, _⟩ := hg
  exact ⟨d, r ++ (fracStr g.U.p g.u ++ g.U.name ++ gs.flatMap Group.text), by simp [Group.text, he], hd, by simp [hname]⟩

theorem groups_stopsUnit (gs : List Group) (hok : ∀ g ∈ gs, g.U.ok) : StopsUnit (gs.flatMap Group.text) := by
  cases gs with
  | nil => trivial
  | cons g gs =>
    obtain ⟨d, rest, he, hd, _⟩ := groups_head g (hok g (by simp)) gs
    simp [he, StopsUnit, digit_isDigit d hd]

/-- every group consumes a character -/
theorem groups_length (gs : List Group) : gs.length ≤ (gs.flatMap Group.text).length := by
  induction gs with
  | nil => simp
  | cons g gs ih =>
    have := List.length_pos_iff.2 (formatNat_ne_nil g.v)
    simp only [List.flatMap_cons, Group.text, List.length_append, List.length_cons]
    omega

/-- the loop adds up the printed groups, as long as the running total stays within 1<<63 -/
theorem parseLoop_groups : ∀ (gs : List Group) (f d : Nat), gs.length < f → (∀ g ∈ gs, g.U.ok) →
    d + groupsValue gs ≤ two63 → parseLoop f (gs.flatMap Group.text) d = .ok (d + groupsValue gs)
  | [], f + 1, d, _, _, _ => by simp [parseLoop, groupsValue]
  | g :: gs, f + 1, d, hf, hok, hb => by
    have hoks : ∀ x ∈ gs, x.U.ok := fun x hx => hok x (by simp [hx])
    simp only [groupsValue] at hb ⊢
    have hc : parseComp (g.text ++ gs.flatMap Group.text) = .ok g.value (gs.flatMap Group.text) :=
      parseComp_group g.U (hok g (by simp)) g.v g.u _ (groups_stopsUnit gs hoks) (show g.value ≤ two63 by omega)
    obtain ⟨_, _, he, _⟩ := groups_head g (hok g (by simp)) gs
    have hne : ((g :: gs).flatMap Group.text).isEmpty = false := by rw [he]; rfl
    rw [parseLoop, hne]
    simp only [List.flatMap_cons, Bool.false_eq_true, if_false, hc, show ¬ d + g.value > two63 by omega]
    rw [parseLoop_groups gs f (d + g.value) (by simpa using hf) hoks (by omega), Nat.add_assoc]

theorem fracStr_zero (u : Nat) : fracStr 0 u = [] := rfl

/-- which groups Duration.String prints for a positive magnitude -/
theorem fmtDurationNat_groups (u : Nat) (hu : 0 < u) :
    ∃ gs : List Group, gs ≠ [] ∧ (∀ g ∈ gs, g.U.ok) ∧ fmtDurationNat u = gs.flatMap Group.text ∧
      groupsValue gs = u := by
  unfold fmtDurationNat
  simp only [show ¬ u = 0 by omega, if_false]
  by_cases c1 : u < 1000
  · exact ⟨[⟨uNs, u, 0⟩], by simp, by simp [uNs_ok], by simp [c1, Group.text, uNs, fracStr_zero],
      by simp [groupsValue, Group.value, uNs]⟩
  by_cases c2 : u < 1000000
  · exact ⟨[⟨uUs, u / 1000, u⟩], by simp, by simp [uUs_ok], by simp [c1, c2, Group.text, uUs],
      by simp [groupsValue, Group.value, uUs]; omega⟩
  by_cases c3 : u < 1000000000
  · exact ⟨[⟨uMs, u / 1000000, u⟩], by simp, by simp [uMs_ok], by simp [c1, c2, c3, Group.text, uMs],
      by simp [groupsValue, Group.value, uMs]; omega⟩
  simp only [c1, c2, c3, if_false]
  by_cases cm : u / 1000000000 / 60 = 0
  · exact ⟨[⟨uS, u / 1000000000 % 60, u⟩], by simp, by simp [uS_ok], by simp [cm, Group.text, uS],
      by simp [groupsValue, Group.value, uS]; omega⟩
  by_cases ch : u / 1000000000 / 60 / 60 = 0
  · exact ⟨[⟨uM, u / 1000000000 / 60 % 60, 0⟩, ⟨uS, u / 1000000000 % 60, u⟩], by simp, by simp [uM_ok, uS_ok],
      by simp [cm, ch, Group.text, uM, uS, fracStr_zero], by simp [groupsValue, Group.value, uM, uS]; omega⟩
  · exact ⟨[⟨uH, u / 1000000000 / 60 / 60, 0⟩, ⟨uM, u / 1000000000 / 60 % 60, 0⟩, ⟨uS, u / 1000000000 % 60, u⟩], by simp,
      by simp [uH_ok, uM_ok, uS_ok], by simp [cm, ch, Group.text, uH, uM, uS, fracStr_zero],
      by simp [groupsValue, Group.value, uH, uM, uS]; omega⟩

theorem parseLoop_fmtDurationNat (u : Nat) (hu : 0 < u) (hle : u ≤ two63) :
    parseLoop ((fmtDurationNat u).length + 1) (fmtDurationNat u) 0 = .ok u := by
  obtain ⟨gs, _, hok, ht, hs⟩ := fmtDurationNat_groups u hu
  rw [ht]
  simpa [hs] using parseLoop_groups gs _ 0 (Nat.lt_succ_of_le (groups_length gs)) hok (by omega)

/-- the printed form of a positive duration (in nanoseconds, at most 1<<63) is parsed back to it -/
theorem parseLoop_fmt (u : Nat) (hu : 0 < u) (hle : u ≤ two63) :
    ∃ f0, f0 ≤ (fmtDurationNat u).length + 1 ∧ parseLoop f0 (fmtDurationNat u) 0 = .ok u :=
  ⟨_, Nat.le_refl _, parseLoop_fmtDurationNat u hu hle⟩

theorem digit_zero : digit 0 = '0' := rfl

/-- time.ParseDuration on the printed form of a magnitude `u ≤ 1<<63`, behind an optional minus sign -/
theorem parseDuration_fmtNat (u : Nat) (hle : u ≤ two63) (neg : Bool) (hpos : neg = false → u < two63) :
    parseDuration (if neg then '-' :: fmtDurationNat u else fmtDurationNat u)
      = .ok (if neg then -(u : Int) else (u : Int)) := by
  by_cases hu : u = 0
  · subst hu
    cases neg <;> decide
  obtain ⟨gs, hgs, hok, ht, _⟩ := fmtDurationNat_groups u (by omega)
  obtain ⟨g, gs, rfl⟩ := List.exists_cons_of_ne_nil hgs
  obtain ⟨dd, rest, hhead, hdd, hrest⟩ := groups_head g (hok g (by simp)) gs
  rw [← ht] at hhead
  have hminus : digit dd ≠ '-' := isDigit_ne (digit_isDigit dd hdd) '-' (by decide)
  have hplus : digit dd ≠ '+' := isDigit_ne (digit_isDigit dd hdd) '+' (by decide)
  have hnot0 : fmtDurationNat u ≠ ['0'] := by rw [hhead]; simp [hrest]
  have hne : (fmtDurationNat u).isEmpty = false := by rw [hhead]; rfl
  have hloop := parseLoop_fmtDurationNat u (by omega) hle
  cases neg with
  | true =>
    simp only [if_true, parseDuration, parseDurationCore, List.head?_cons, beq_self_eq_true, Bool.true_or, List.tail_cons, hnot0, if_false, hne,
      Bool.false_eq_true, hloop]
  | false =>
    have hlt := hpos rfl
    have h2 : two63 = 9223372036854775808 := rfl
    simp only [Bool.false_eq_true, if_false, parseDuration, parseDurationCore, hhead, List.head?_cons]
    have e1 : (some (digit dd) == some '-') = false := by simp [hminus]
    have e2 : (some (digit dd) == some '+') = false := by simp [hplus]
    simp only [e1, e2, Bool.or_false, Bool.false_eq_true, if_false]
    rw [← hhead]
    simp only [hnot0, if_false, hne, Bool.false_eq_true, hloop]
    simp [show ¬ u > two63 - 1 from by omega]

/-- what Duration.String prints for any int64 value is parsed back to exactly that value -/
theorem parseDuration_fmtDuration (d : Int) (h1 : -(9223372036854775808 : Int) ≤ d) (h2 : d < 9223372036854775808) :
    parseDuration (fmtDuration d) = .ok d := by
  have h63 : two63 = 9223372036854775808 := rfl
  have := parseDuration_fmtNat d.natAbs (by omega) (decide (d < 0)) (by simp; omega)
  unfold fmtDuration
  by_cases hneg : d < 0
  · simp only [hneg, decide_true, if_true] at this ⊢
    rw [this]
    congr 1
    omega
  · simp only [hneg, decide_false, if_false, Bool.false_eq_true] at this ⊢
    rw [this]
    congr 1
    omega

/-- the running total never exceeds 1<<63 -/
theorem parseLoop_bound : ∀ (f : Nat) (s : Str) (d r : Nat), d ≤ two63 → parseLoop f s d = .ok r → r ≤ two63 := by
  intro f
  induction f with
  | zero => intro s d r _ h; simp [parseLoop] at h
  | succ f ih =>
    intro s d r hd h
    simp only [parseLoop] at h
    split at h
    · cases h; exact hd
    · split at h
      · cases h
      · cases h
      · split at h
        · cases h
        · exact ih _ _ r (by omega) h

end Dials.Parse
