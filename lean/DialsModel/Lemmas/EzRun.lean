/-
The observable summary of `ezRun` for every environment and every schedule of the family `Sched`, by
symbolic execution of the script (simp set `ez_exec`, Lemmas/EzExec.lean).

The script is executed in phases.  What it has done when `d.View()` has returned (`afterView`) depends on
the schedule only through where the two goroutines are parked; when `blank.SetSource` has returned nil
(`afterSet`) the monitor has worked, and only the callback goroutine's place is left of the schedule.  The
races of the schedule (`race`, `cbWhen`) start at `EnableVerification`, so the phases up to there are
executed once per parking and the rest once per schedule from these two states.
-/
import DialsModel.Lemmas.EzExec

namespace Dials.Ez
open Dials Dials.Runtime

set_option linter.unusedSimpArgs false

def parkedMon (b : Bool) : MonPc := if b then .sel else .top
def parkedCb (b : Bool) : CbPc := if b then .sel else .top

/-- `basecfg := d.View()` has returned: Config has stacked the file-less sources as version 0, nothing else
has happened -/
def afterView (E : Env) (sch : Sched) : Run :=
  { st :=
      { initState ezParams (slots₀ E) watching₀ with
        mon := parkedMon sch.monParked, cb := parkedCb sch.cbParked, clients := [(0, .idle)]
        log := [.seen 0 ⟨0, baseCfg E⟩, .ret 0 (.version ⟨0, baseCfg E⟩)] }
    started := true, base := some (baseCfg E), doneOnExit := !E.watch }

/-- `blank.SetSource` has returned nil: the monitor has installed the full stack as version 1, put it on the
Events channel, answered the report, and is about to submit the new-config event -/
def afterSet (E : Env) (sch : Sched) (p v : Nat) : Run :=
  { afterView E sch with
    st :=
      { (afterView E sch).st with
        view := ⟨1, fullCfg E v⟩, slots := fullCfg E v, mon := .submitNew (baseCfg E)
        events := some ⟨1, fullCfg E v⟩
        log := [.ret 0 .okNil, .replied 0 .okNil, .install ⟨1, fullCfg E v⟩ true, .gotUpd 0 v (some 0)] ++
          (afterView E sch).st.log }
    path := some p }

def opsAfterView : List Facts.EzTok := [.configPath, .decoder, .fileSource, .setSource, .enable, .drain]

attribute [ez_exec] parkedMon parkedCb afterView afterSet opsAfterView

theorem run_to_view (E : Env) (sch : Sched) (h0 : E.W.stackOk (baseCfg E) = true) :
    Cfg.run E sch 3 { r := { st := initState ezParams [] [] }, ts := Facts.ezMainOps, chk := Facts.ezChecked } =
      { r := afterView E sch, ts := opsAfterView, chk := Facts.ezChecked } := by
  simp only [baseCfg, blankV] at h0
  obtain ⟨mp, cp, race, cw⟩ := sch
  cases mp <;> cases cp <;> ez_eval [h0]

theorem run_to_set (E : Env) (sch : Sched) (p v : Nat) (hp : E.path (baseCfg E) = some p) (hd : E.decoder p = true)
    (hf : E.file p = some v) (h1 : E.W.stackOk (fullCfg E v) = true) :
    Cfg.run E sch 4 { r := afterView E sch, ts := opsAfterView, chk := Facts.ezChecked } =
      { r := afterSet E sch p v, ts := [.enable, .drain], chk := Facts.ezChecked } := by
  simp only [baseCfg, fullCfg, blankV] at hp h1
  obtain ⟨mp, cp, race, cw⟩ := sch
  cases mp <;> cases cp <;> ez_eval [hp, hd, hf, h1]

theorem ezRun_from_view (E : Env) (sch : Sched) (h0 : E.W.stackOk (baseCfg E) = true) :
    ezRun E sch = Out.of E (Cfg.run E sch 8 { r := afterView E sch, ts := opsAfterView, chk := Facts.ezChecked }) := by
  rw [ezRun, show fuel = 3 + 8 from rfl, Cfg.run_add, run_to_view E sch h0]

theorem ezRun_from_set (E : Env) (sch : Sched) (p v : Nat) (h0 : E.W.stackOk (baseCfg E) = true)
    (hp : E.path (baseCfg E) = some p) (hd : E.decoder p = true) (hf : E.file p = some v)
    (h1 : E.W.stackOk (fullCfg E v) = true) :
    ezRun E sch =
      Out.of E (Cfg.run E sch 4 { r := afterSet E sch p v, ts := [.enable, .drain], chk := Facts.ezChecked }) := by
  rw [ezRun_from_view E sch h0, show 8 = 4 + 4 from rfl, Cfg.run_add, run_to_set E sch p v hp hd hf h1]

/-- the file is read, stacks and verifies: ez returns the Dials -/
theorem ezRun_ok (E : Env) (sch : Sched) (p v : Nat)
    (h0 : E.W.stackOk (baseCfg E) = true) (hp : E.path (baseCfg E) = some p) (hd : E.decoder p = true)
    (hf : E.file p = some v) (h1 : E.W.stackOk (fullCfg E v) = true) (h2 : E.W.valid (fullCfg E v) = true) :
    summary E.W (ezRun E sch) =
      { err := none, view := some ⟨1, fullCfg E v⟩, events := some none, skip := some false
        verifies := [(fullCfg E v, true)], globals := [], later := [], received := [⟨1, fullCfg E v⟩], path := some p
        slots := some (fullCfg E v), idle := some E.watch, quiet := some true, room := some true } := by
  rw [ezRun_from_set E sch p v h0 hp hd hf h1]
  simp only [fullCfg] at h2
  obtain ⟨mp, cp, race, cw⟩ := sch
  rcases Bool.eq_false_or_eq_true E.watch with hw | hw <;>
  cases cp <;> cases race <;> cases cw <;> ez_eval [h2, hw]

/-- the file is read and stacks, but the full stack does not verify -/
theorem ezRun_vf (E : Env) (sch : Sched) (p v : Nat)
    (h0 : E.W.stackOk (baseCfg E) = true) (hp : E.path (baseCfg E) = some p) (hd : E.decoder p = true)
    (hf : E.file p = some v) (h1 : E.W.stackOk (fullCfg E v) = true) (h2 : E.W.valid (fullCfg E v) = false) :
    summary E.W (ezRun E sch) =
      { err := some .verify, view := some ⟨1, fullCfg E v⟩, events := some (some ⟨1, fullCfg E v⟩), skip := some true
        verifies := [(fullCfg E v, false)], globals := [], later := [], received := [], path := some p
        slots := some (fullCfg E v), idle := some E.watch, quiet := some true, room := some true } := by
  rw [ezRun_from_set E sch p v h0 hp hd hf h1]
  simp only [fullCfg] at h2
  obtain ⟨mp, cp, race, cw⟩ := sch
  rcases Bool.eq_false_or_eq_true E.watch with hw | hw <;>
  cases cp <;> cases race <;> cases cw <;> ez_eval [h2, hw]

/-! ### ConfigPath answers "no file"

Nothing is pending when `EnableVerification` is called, so all a schedule does is decide where the two
goroutines stand when the request arrives (`settled`): the run equals that of a schedule that parks them there
at once and makes no attempt of its own. -/

def settled (sch : Sched) : Sched :=
  { sch with
    monParked := sch.monParked || sch.race != .queuedBefore
    cbParked := sch.cbParked || (sch.race != .queuedBefore && sch.cbWhen == .early)
    race := .queuedBefore }

theorem attempts_enablePre_afterView (E : Env) (sch : Sched) :
    (afterView E sch).attempts E.W (enablePre sch) = afterView E (settled sch) := by
  obtain ⟨mp, cp, race, cw⟩ := sch
  cases mp <;> cases cp <;> cases race <;> cases cw <;> ez_eval [settled]

theorem call_enable_afterView (E : Env) (sch : Sched) : (call E.W (afterView E sch) .enable).isSome = true := by
  obtain ⟨mp, cp, race, cw⟩ := sch
  cases mp <;> cases cp <;> ez_eval []

def nopathCfg (E : Env) (sch : Sched) : Cfg :=
  { r := afterView E sch, ts := Facts.ezNoFileOps, chk := Facts.ezNoFileChecked }

theorem Cfg.run_nil_ts (E : Env) (sch sch' : Sched) (n : Nat) (c : Cfg) (h : c.ts = []) :
    Cfg.run E sch n c = Cfg.run E sch' n c := by
  induction n generalizing c with
  | zero => rfl
  | succ n ih =>
    have hs : c.step E sch = c.step E sch' ∧ (c.step E sch').ts = [] := by
      unfold Cfg.step
      cases c.res <;> simp [h]
    rw [Cfg.run, Cfg.run, hs.1, ih _ hs.2]

theorem run_nopath_settled (E : Env) (sch : Sched) :
    Cfg.run E sch 7 (nopathCfg E sch) = Cfg.run E (settled sch) 7 (nopathCfg E (settled sch)) := by
  obtain ⟨x, hx⟩ := Option.isSome_iff_exists.1 (call_enable_afterView E (settled sch))
  have hpre : enablePre (settled sch) = [] := rfl
  have hstep : (nopathCfg E sch).step E sch = (nopathCfg E (settled sch)).step E (settled sch) := by
    have hst : ∀ sch, (afterView E sch).started = true := fun _ => rfl
    have hnil : ∀ r : Run, r.attempts E.W [] = r := fun _ => rfl
    simp only [nopathCfg, Cfg.step, Facts.ezNoFileOps, execTok, hst, attempts_enablePre_afterView, hpre, hnil, hx,
      Bool.not_true, Bool.false_eq_true, ↓reduceIte]
    obtain ⟨r, res⟩ := x
    cases res <;> simp [Cfg.next]
  have hts : ((nopathCfg E (settled sch)).step E (settled sch)).ts = [] := by
    simp only [nopathCfg, Cfg.step, Facts.ezNoFileOps]
    generalize execTok _ _ _ _ _ = nx
    cases nx <;> simp [Cfg.next]
  rw [Cfg.run_succ E sch 6, Cfg.run_succ E (settled sch) 6, hstep]
  exact Cfg.run_nil_ts E sch (settled sch) 6 _ hts

theorem run_to_nopath (E : Env) (sch : Sched) (hp : E.path (baseCfg E) = none) :
    Cfg.run E sch 8 { r := afterView E sch, ts := opsAfterView, chk := Facts.ezChecked } =
      Cfg.run E sch 7 (nopathCfg E sch) := by
  simp only [baseCfg, blankV] at hp
  rw [Cfg.run_succ E sch 7]
  simp -implicitDefEqProofs [Cfg.step, Cfg.next, execTok, opsAfterView, afterView, nopathCfg, baseCfg, blankV, hp]

/-- ConfigPath answers "no file": the file-less stack is the full stack and is verified -/
theorem ezRun_nopath (E : Env) (sch : Sched)
    (h0 : E.W.stackOk (baseCfg E) = true) (hp : E.path (baseCfg E) = none) :
    summary E.W (ezRun E sch) =
      { err := if E.W.valid (baseCfg E) then none else some .verify
        view := some ⟨0, baseCfg E⟩, events := some none, skip := some (!E.W.valid (baseCfg E))
        verifies := [(baseCfg E, E.W.valid (baseCfg E))], globals := [], later := [], received := [], path := none
        slots := some (baseCfg E), idle := some E.watch, quiet := some true, room := some true } := by
  rw [ezRun_from_view E sch h0, run_to_nopath E sch hp, run_nopath_settled]
  simp only [baseCfg, blankV]
  have hr : (settled sch).race = .queuedBefore := rfl
  generalize settled sch = s at hr ⊢
  obtain ⟨mp, cp, race, cw⟩ := s
  subst hr
  rcases Bool.eq_false_or_eq_true E.watch with hw | hw <;>
  rcases Bool.eq_false_or_eq_true (E.W.valid [0, E.envV, E.flagV]) with h2 | h2 <;>
  cases mp <;> cases cp <;> ez_eval [nopathCfg, h2, hw]

/-- Params.Config fails on the file-less sources: nothing was started -/
theorem ezRun_configErr (E : Env) (sch : Sched) (h0 : E.W.stackOk (baseCfg E) = false) :
    summary E.W (ezRun E sch) =
      { err := some .config, view := none, events := none, skip := none
        verifies := [], globals := [], later := [], received := [], path := none
        slots := none, idle := none, quiet := none, room := none } := by
  simp only [baseCfg, blankV] at h0
  ez_eval [h0]

/-- the decoder factory has no decoder for the path -/
theorem ezRun_noDecoder (E : Env) (sch : Sched) (p : Nat)
    (h0 : E.W.stackOk (baseCfg E) = true) (hp : E.path (baseCfg E) = some p) (hd : E.decoder p = false) :
    summary E.W (ezRun E sch) =
      { err := some .noDecoder, view := some ⟨0, baseCfg E⟩, events := some none, skip := some true
        verifies := [], globals := [], later := [], received := [], path := some p
        slots := some (baseCfg E), idle := some E.watch, quiet := some true, room := some true } := by
  rw [ezRun_from_view E sch h0]
  simp only [baseCfg, blankV] at hp ⊢
  obtain ⟨mp, cp, race, cw⟩ := sch
  rcases Bool.eq_false_or_eq_true E.watch with hw | hw <;>
  cases mp <;> cases cp <;> ez_eval [hp, hd, hw]

/-- the file cannot be opened or decoded -/
theorem ezRun_fileErr (E : Env) (sch : Sched) (p : Nat)
    (h0 : E.W.stackOk (baseCfg E) = true) (hp : E.path (baseCfg E) = some p) (hd : E.decoder p = true)
    (hf : E.file p = none) :
    summary E.W (ezRun E sch) =
      { err := some .fileValue, view := some ⟨0, baseCfg E⟩, events := some none, skip := some true
        verifies := [], globals := [], later := [], received := [], path := some p
        slots := some (baseCfg E), idle := some E.watch, quiet := some true, room := some true } := by
  rw [ezRun_from_view E sch h0]
  simp only [baseCfg, blankV] at hp ⊢
  obtain ⟨mp, cp, race, cw⟩ := sch
  rcases Bool.eq_false_or_eq_true E.watch with hw | hw <;>
  cases mp <;> cases cp <;> ez_eval [hp, hd, hf, hw]

/-- the file's value does not stack on the other sources: SetSource fails, nothing is installed; the
callback goroutine, when it gets to the queued error event, calls OnWatchedError with the file-less
config as `oldConfig` (`later`): stack-error events are never withheld -/
theorem ezRun_stackErr (E : Env) (sch : Sched) (p v : Nat)
    (h0 : E.W.stackOk (baseCfg E) = true) (hp : E.path (baseCfg E) = some p) (hd : E.decoder p = true)
    (hf : E.file p = some v) (h1 : E.W.stackOk (fullCfg E v) = false) :
    summary E.W (ezRun E sch) =
      { err := some (.integrate .errStack), view := some ⟨0, baseCfg E⟩, events := some none, skip := some true
        verifies := [], globals := [], later := [.onErr .stack (baseCfg E) none], received := [], path := some p
        slots := some (fullCfg E v), idle := some E.watch, quiet := some true, room := some true } := by
  rw [ezRun_from_view E sch h0]
  simp only [baseCfg, fullCfg, blankV] at hp h1 ⊢
  obtain ⟨mp, cp, race, cw⟩ := sch
  rcases Bool.eq_false_or_eq_true E.watch with hw | hw <;>
  cases mp <;> cases cp <;> ez_eval [hp, hd, hf, h1, hw]

end Dials.Ez
