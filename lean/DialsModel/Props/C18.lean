/-
C18 — ez: defaults < file < environment < flags, verified once on the full stack.

The ez entry points are the script `Facts.ezMainOps` (regenerated from ez/ez.go) executed on the
runtime model (Model/Ez.lean); a config is the slot snapshot it was stacked from, so the stack
"defaults overlaid by file, then environment, then flags" is the snapshot `fullCfg E v = [v, envV, flagV]`
(leaf-wise precedence of a snapshot: C01) and the file-less intermediate is `baseCfg E = [blank, envV, flagV]`.
All theorems hold for every environment `E` (which snapshots stack / verify, what ConfigPath and
the file yield) and every schedule of the family `Sched` (Model/Ez.lean); theorems that take a
`Reachable` hypothesis hold for every interleaving of the runtime model.

Property theorems only (symbolic execution and helper lemmas: Lemmas/Ez*.lean).
-/
import DialsModel.Lemmas.Ez
import DialsModel.Props.C05

namespace Dials.C18
open Dials Dials.Runtime Dials.Ez

/-- F22: the environment layer of ez is the env source's exact-name `os.LookupEnv` (values reach the stack byte for
byte, `=` inside a value included). -/
theorem C18_environment_is_a_lookup : 1 ≤ Facts.envLookupCalls ∧ Facts.envOtherReads = 0 := by
  decide

/-- Regenerated facts of ez.go: the `dials.Params` literal delays verification and withholds the
global callbacks, does not skip verification for good, passes both callbacks through; the sources
are handed to Config in the order blank, env, flag; the file source goes into the Blank; the calls
of the main path and of the no-file branch come in this order; every fallible call's error is
returned at once. -/
theorem C18_script_facts :
    ezParams = { skipInitial := false, delay := true, suppress := true } ∧
    Facts.ezPassOnNew = true ∧ Facts.ezPassOnErr = true ∧
    Facts.ezSources = [.blank, .env, .flag] ∧ Facts.ezSetSourceOn = .blank ∧ fileSlot = 0 ∧
    Facts.ezMainOps = [.config, .deferDone, .view, .configPath, .decoder, .fileSource, .setSource, .enable, .drain] ∧
    Facts.ezNoFileOps = [.enable] ∧
    (∀ t ∈ [Facts.EzTok.config, .decoder, .setSource, .enable], t ∈ Facts.ezChecked) ∧
    Facts.EzTok.enable ∈ Facts.ezNoFileChecked := by
  refine ⟨rfl, rfl, rfl, rfl, rfl, fileSlot_eq, rfl, rfl, ?_, ?_⟩ <;> decide

/-- Config stacks the file-less sources: blank, environment, flags - and only the Blank watches. -/
theorem C18_initial_stack (E : Env) :
    slots₀ E = baseCfg E ∧ watching₀ = [true, false, false] := by
  constructor <;> rfl

/-- The first visible config: when the file named by ConfigPath is read, stacks and verifies, ez
returns without error and the view is the stack of [file, environment, flags] - the file in the
lowest slot above the defaults, below environment and flags (with C01: defaults < file < environment
< flags leaf by leaf) - as version 1. -/
theorem C18_first_view (E : Env) (sch : Sched) (p v : Nat)
    (h0 : E.W.stackOk (baseCfg E) = true) (hp : E.path (baseCfg E) = some p) (hd : E.decoder p = true)
    (hf : E.file p = some v) (h1 : E.W.stackOk (fullCfg E v) = true) (h2 : E.W.valid (fullCfg E v) = true) :
    (ezRun E sch).err = none ∧
    ∃ s, (ezRun E sch).st = some s ∧ s.view = ⟨1, [v, E.envV, E.flagV]⟩ ∧ s.slots = [v, E.envV, E.flagV] := by
  obtain ⟨s, hs, h⟩ := summary_eq_iff_of_view rfl (ezRun_ok E sch p v h0 hp hd hf h1 h2)
  simp only [summaryAt, Summary.mk.injEq, Option.some.injEq] at h
  exact ⟨h.1, s, hs, h.2.1, h.2.2.2.2.2.2.2.2.2.1⟩

/-- The file that is read is the one ConfigPath names on the FILE-LESS stack (defaults, environment,
flags): whatever path the file itself might set is not consulted. -/
theorem C18_path (E : Env) (sch : Sched) (h0 : E.W.stackOk (baseCfg E) = true) :
    (ezRun E sch).path = E.path (baseCfg E) :=
  (ezRun_verifies E sch h0).2.2.2.2.1

/-- Verify is called exactly once, on the full stack (`fullStack E`: the stack including the file
ConfigPath named, or the file-less stack when it named none), and not at all when ez fails before
such a stack exists (no decoder, unreadable file, the file does not stack). -/
theorem C18_verify_once (E : Env) (sch : Sched) (h0 : E.W.stackOk (baseCfg E) = true) (s : State)
    (hs : (ezRun E sch).st = some s) :
    verifyCalls s = (match fullStack E with | some c => [(c, E.W.valid c)] | none => []) := by
  have h := (ezRun_verifies E sch h0).1
  rwa [summary_of_st hs] at h

/-- Verify never sees the file-less intermediate: when a file is named and its value changes the
stack, no Verify call has the file-less config as its receiver. -/
theorem C18_never_on_intermediate (E : Env) (sch : Sched) (p : Nat) (h0 : E.W.stackOk (baseCfg E) = true)
    (hp : E.path (baseCfg E) = some p) (hne : ∀ v, E.file p = some v → fullCfg E v ≠ baseCfg E)
    (s : State) (hs : (ezRun E sch).st = some s) (b : Bool) : (baseCfg E, b) ∉ verifyCalls s := by
  rw [C18_verify_once E sch h0 s hs]
  cases hfs : fullStack E with
  | none => simp
  | some c =>
    simp only [List.mem_singleton, Prod.mk.injEq, not_and]
    intro hc
    exfalso
    subst hc
    unfold fullStack at hfs
    simp only [hp] at hfs
    split at hfs
    · cases hf : E.file p with
      | none => simp [hf] at hfs
      | some v =>
        simp only [hf] at hfs
        split at hfs
        · exact hne v hf (Option.some.inj hfs)
        · cases hfs
    · cases hfs

/-- The outcome of that one Verify call is ez's result: ez returns without error exactly when the
full stack exists and verifies, and a failing Verify makes ez return the verification error. -/
theorem C18_verify_failure_is_error (E : Env) (sch : Sched) (h0 : E.W.stackOk (baseCfg E) = true) :
    ((ezRun E sch).err = none ↔ ∃ c, fullStack E = some c ∧ E.W.valid c = true) ∧
    (∀ c, fullStack E = some c → E.W.valid c = false → (ezRun E sch).err = some .verify) :=
  ⟨(ezRun_verifies E sch h0).2.1, (ezRun_verifies E sch h0).2.2.1⟩

/-- Nothing exposes the intermediate config.  When ez returns a Dials (no error): the Events channel
is empty; the only value ez itself took from it is the full stack's version 1 (nothing, without a
file); no global callback (OnNewConfig / OnWatchedError) was entered, and none is entered when the
callback goroutine later works off what is still queued. -/
theorem C18_hidden_intermediate (E : Env) (sch : Sched) (h0 : E.W.stackOk (baseCfg E) = true)
    (he : (ezRun E sch).err = none) :
    ∃ s, (ezRun E sch).st = some s ∧ s.events = none ∧ globalCalls s = [] ∧
      globalCalls (cbQuiesce E.W 4 s) = [] ∧
      (∀ ver ∈ eventsReceived s, ∃ v, ver = ⟨1, fullCfg E v⟩ ∧ fullStack E = some (fullCfg E v)) := by
  have hsum : ∀ S : Summary, summary E.W (ezRun E sch) = S → S.view ≠ none → S.events = some none → S.globals = [] →
      S.later = [] → (∀ ver ∈ S.received, ∃ v, ver = ⟨1, fullCfg E v⟩ ∧ fullStack E = some (fullCfg E v)) →
      ∃ s, (ezRun E sch).st = some s ∧ s.events = none ∧ globalCalls s = [] ∧
        globalCalls (cbQuiesce E.W 4 s) = [] ∧
        (∀ ver ∈ eventsReceived s, ∃ v, ver = ⟨1, fullCfg E v⟩ ∧ fullStack E = some (fullCfg E v)) := by
    intro S hS hv hev hg hl hr
    obtain ⟨v, hv⟩ := Option.ne_none_iff_exists'.1 hv
    obtain ⟨s, hs, rfl⟩ := summary_eq_iff_of_view hv hS
    exact ⟨s, hs, Option.some.inj hev, hg, hl, hr⟩
  have herr : ∀ S : Summary, summary E.W (ezRun E sch) = S → S.err = none :=
    fun S hS => by rw [← hS]; exact he
  cases hp : E.path (baseCfg E) with
  | none => exact hsum _ (ezRun_nopath E sch h0 hp) (by simp) rfl rfl rfl (by simp)
  | some p =>
    rcases Bool.eq_false_or_eq_true (E.decoder p) with hd | hd
    · cases hf : E.file p with
      | none => cases herr _ (ezRun_fileErr E sch p h0 hp hd hf)
      | some v =>
        rcases Bool.eq_false_or_eq_true (E.W.stackOk (fullCfg E v)) with h1 | h1
        · rcases Bool.eq_false_or_eq_true (E.W.valid (fullCfg E v)) with h2 | h2
          · refine hsum _ (ezRun_ok E sch p v h0 hp hd hf h1 h2) (by simp) rfl rfl rfl ?_
            intro ver hver
            exact ⟨v, List.mem_singleton.1 hver, by simp [fullStack, hp, hd, hf, h1]⟩
          · cases herr _ (ezRun_vf E sch p v h0 hp hd hf h1 h2)
        · cases herr _ (ezRun_stackErr E sch p v h0 hp hd hf h1)
    · cases herr _ (ezRun_noDecoder E sch p h0 hp hd)

/-- In every exit - error exits included - no global callback is entered while ez runs; in every exit
but one nothing is delivered afterwards either. -/
theorem C18_no_global_callback_during_ez (E : Env) (sch : Sched) (h0 : E.W.stackOk (baseCfg E) = true)
    (s : State) (hs : (ezRun E sch).st = some s) :
    globalCalls s = [] ∧
    ((ezRun E sch).err ≠ some (.integrate .errStack) → globalCalls (cbQuiesce E.W 4 s) = []) := by
  have h := ezRun_verifies E sch h0
  rw [summary_of_st hs] at h
  exact ⟨h.2.2.2.2.2.1, h.2.2.2.2.2.2⟩

/-- The one exception (model level; it needs a file value that does not stack on the other sources,
which the typed decoders cannot produce): SetSource's stacking error is queued for OnWatchedError
un-withheld, so after ez has returned its error the callback goroutine calls OnWatchedError with
the file-less config as `oldConfig`. -/
theorem C18_stack_error_reaches_OnWatchedError (E : Env) (sch : Sched) (p v : Nat)
    (h0 : E.W.stackOk (baseCfg E) = true) (hp : E.path (baseCfg E) = some p) (hd : E.decoder p = true)
    (hf : E.file p = some v) (h1 : E.W.stackOk (fullCfg E v) = false) :
    (ezRun E sch).err = some (.integrate .errStack) ∧
    ∃ s, (ezRun E sch).st = some s ∧ s.view = ⟨0, baseCfg E⟩ ∧
      globalCalls (cbQuiesce E.W 4 s) = [.onErr .stack (baseCfg E) none] := by
  obtain ⟨s, hs, h⟩ := summary_eq_iff_of_view rfl (ezRun_stackErr E sch p v h0 hp hd hf h1)
  simp only [summaryAt, Summary.mk.injEq, Option.some.injEq] at h
  exact ⟨h.1, s, hs, h.2.1, h.2.2.2.2.2.2.1⟩

/-- ez never hangs: every call of the script is enabled when it is reached - in particular the
receive from Events() finds the event of the file's install. -/
theorem C18_no_hang (E : Env) (sch : Sched) (h0 : E.W.stackOk (baseCfg E) = true) :
    (ezRun E sch).err ≠ some .stuck :=
  (ezRun_verifies E sch h0).2.2.2.1

/-- When Config itself fails (the file-less sources do not stack) ez returns that error and nothing
was started. -/
theorem C18_config_error (E : Env) (sch : Sched) (h0 : E.W.stackOk (baseCfg E) = false) :
    (ezRun E sch).err = some .config ∧ (ezRun E sch).st = none := by
  have h := ezRun_configErr E sch h0
  refine ⟨congrArg Summary.err h, ?_⟩
  cases hst : (ezRun E sch).st with
  | none => rfl
  | some s => simp [summary_of_st hst, summaryAt] at h

/-- Later file changes (watching on) re-stack under the same precedence: from the state in which ez
returned, a report of the file source with value v' makes the monitor stack [v', environment,
flags] - the new file value in the file's slot, environment and flags on top as before - VERIFY it
(verification is on now), and install it as the next version with an un-withheld OnNewConfig event;
a stack that does not verify (or stack) leaves the view unchanged and queues OnWatchedError. -/
theorem C18_later_updates (E : Env) (sch : Sched) (p v v' : Nat) (hw : E.watch = true)
    (h0 : E.W.stackOk (baseCfg E) = true) (hp : E.path (baseCfg E) = some p) (hd : E.decoder p = true)
    (hf : E.file p = some v) (h1 : E.W.stackOk (fullCfg E v) = true) (h2 : E.W.valid (fullCfg E v) = true) :
    ∃ s s', (ezRun E sch).st = some s ∧ laterReport E.W s v' = some s' ∧ s'.slots = fullCfg E v' ∧
      (E.W.stackOk (fullCfg E v') = true → E.W.valid (fullCfg E v') = true →
        s'.view = ⟨2, fullCfg E v'⟩ ∧
        verifyCalls s' = [(fullCfg E v, true), (fullCfg E v', true)] ∧
        Obs.queued (.newCfg (fullCfg E v) ⟨2, fullCfg E v'⟩ false) false ∈ s'.log) ∧
      (E.W.stackOk (fullCfg E v') = true → E.W.valid (fullCfg E v') = false →
        s'.view = ⟨1, fullCfg E v⟩ ∧
        Obs.queued (.watchErr .verify (fullCfg E v) (some (fullCfg E v'))) false ∈ s'.log) ∧
      (E.W.stackOk (fullCfg E v') = false →
        s'.view = ⟨1, fullCfg E v⟩ ∧ Obs.queued (.watchErr .stack (fullCfg E v) none) false ∈ s'.log) := by
  obtain ⟨s, hs, h⟩ := summary_eq_iff_of_view rfl (ezRun_ok E sch p v h0 hp hd hf h1 h2)
  simp only [summaryAt, Summary.mk.injEq, Option.some.injEq, hw] at h
  obtain ⟨-, hv, hev, hsk, hvf, -, -, -, -, hsl, hid, hq, hrm⟩ := h
  obtain ⟨s', hl, hslots, -, hok, hvfail, hsfail⟩ := laterReport_spec E.W s v' hid hq hsk hrm hev
  have hset : setSlot s.slots 0 v' = fullCfg E v' := by rw [hsl]; rfl
  rw [hset] at hslots hok hvfail hsfail
  rw [hv] at hok hvfail hsfail
  refine ⟨s, s', hs, hl, hslots, fun a b => ?_, fun a b => ?_, fun a => ?_⟩
  · obtain ⟨x, y, z⟩ := hok a b
    exact ⟨x, by rw [y, hvf]; rfl, z⟩
  · exact ⟨(hvfail a b).1, (hvfail a b).2.2⟩
  · exact ⟨(hsfail a).1, (hsfail a).2.2⟩

/-- The state in which ez returns is a reachable state of the runtime model started by Config with
ez's parameters and sources: everything proved for all interleavings in C04–C09 applies to it and
to everything that happens afterwards (e.g. C09_never_early: no Verify before EnableVerification is
called; C09_suppression_exact: installs made while verification is off are announced with the global
callbacks withheld; those two live over Lemmas/RuntimeEnable, which cannot be imported together with
Lemmas/RuntimeInv used below). -/
theorem C18_reachable (E : Env) (sch : Sched) (s : State) (hs : (ezRun E sch).st = some s) :
    Reachable E.W ezParams (baseCfg E) [true, false, false] s :=
  ezRun_reachable E sch s hs

/-- For EVERY interleaving and any number of later file reports: as long as only the file's slot is
ever reported (environment and flag sources are not watchers), whenever the monitor is between two
updates and the stack of the latest values is good, the visible config is [latest file value,
environment, flags]: the file stays in the lowest slot, environment and flags keep their values. -/
theorem C18_restack_any_schedule (E : Env) (s : State)
    (hr : Reachable E.W ezParams (baseCfg E) [true, false, false] s)
    (honly : ∀ src v r, Obs.gotUpd src v r ∈ s.log → src = 0)
    (hidle : s.mon.idle = true) (hstk : E.W.stackOk s.slots = true)
    (hval : s.skipVerify = true ∨ E.W.valid s.slots = true) :
    ∃ x, s.view.cfg = [x, E.envV, E.flagV] ∧ (x = blankV ∨ ∃ r, Obs.gotUpd 0 x r ∈ s.log) := by
  have hview := C05.C05_fresh_when_good hr hidle hstk hval
  have hslots := C05.C05_slots_latest hr
  have honly' : ∀ src v r, Obs.gotUpd src v r ∈ s.history → src = 0 := by
    intro src v r hm
    exact honly src v r (by simpa [State.history] using hm)
  obtain ⟨x, hx, hor⟩ := foldl_file_only E.envV E.flagV s.history honly' blankV
  refine ⟨x, ?_, ?_⟩
  · rw [hview, hslots]; exact hx
  · rcases hor with h | ⟨r, hr'⟩
    · exact Or.inl h
    · exact Or.inr ⟨r, by simpa [State.history] using hr'⟩

/-! ### non-vacuity: a concrete environment exercising every exit -/

/-- slot values: a snapshot is unstackable when it contains 2; it is valid only when the file
contributed something (first slot not blank) and no slot holds 1 -/
def exWorld : World :=
  { stackOk := fun sl => sl.all (fun v => v != 2)
    valid := fun sl => sl.all (fun v => v != 1) && sl.head? != some 0 }

def exEnv (fileV : Option Nat) (watch : Bool) : Env :=
  { W := exWorld, envV := 4, flagV := 8
    path := fun b => if b = [0, 4, 8] then some 7 else some 99      -- a path set by the file itself is not consulted
    decoder := fun _ => true
    file := fun p => if p = 7 then fileV else none
    watch := watch }

/-- the config is valid ONLY with the file included, and ez succeeds -/
example : exWorld.valid (baseCfg (exEnv (some 12) true)) = false ∧ exWorld.valid [12, 4, 8] = true := by decide
example : fullStack (exEnv (some 12) true) = some [12, 4, 8] := by decide
example : (ezRun (exEnv (some 12) true) {}).err = none := by decide
example : ((ezRun (exEnv (some 12) false) { race := .queuedBefore, cbWhen := .early }).st.map (·.view)) =
    some ⟨1, [12, 4, 8]⟩ := by decide
example : ((ezRun (exEnv (some 12) true) {}).st.map verifyCalls) = some [([12, 4, 8], true)] := by decide
example : (ezRun (exEnv (some 1) true) {}).err = some .verify := by decide
example : (ezRun (exEnv (some 2) true) {}).err = some (.integrate .errStack) := by decide
example : (ezRun (exEnv none true) {}).err = some .fileValue := by decide
example : (((ezRun (exEnv (some 12) true) {}).st.bind (laterReport exWorld · 16)).map (·.view)) =
    some ⟨2, [16, 4, 8]⟩ := by decide

end Dials.C18
