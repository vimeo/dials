/-
C09 — Delayed verification: never early, atomic switch-on, precise suppression.

Property theorems only (helper lemmas and invariants live in Lemmas/RuntimeEnable.lean).
-/
import DialsModel.Model.RuntimeSpec
import DialsModel.Lemmas.RuntimeEnable

namespace Dials.C09
open Dials Dials.Runtime

/-- With delayed initial verification, Verify is never invoked before EnableVerification is called. -/
theorem C09_never_early {W : World} {P : Params} {sl : Slots} {w : List Bool} {s : State}
    (hr : Reachable W P sl w s) (hd : P.delay = true) (cfg : Slots) (ok b : Bool)
    (hv : Obs.verify cfg ok b ∈ s.log) : ∃ c, Before s.history (.enableCalled c) (.verify cfg ok b) := by
  obtain ⟨l1, l2, e⟩ := List.append_of_mem hv
  obtain ⟨c, hc⟩ : Called l2 := (InvB.reachable hr hd).log.split l1 _ l2 e
  exact ⟨c, before_of_split e hc⟩

/-- Config itself does not verify in delay mode. -/
theorem C09_config_does_not_verify (P : Params) (hd : P.delay = true) : Facts.initialVerify P.skipInitial P.delay = false := by
  simp [Facts.initialVerify, hd]

/-- Processing an enable request while the delay is in force verifies exactly the installed config. -/
theorem C09_verifies_installed (W : World) (s s' : State) (ch c tok : Nat)
    (hm : s.mon = .verifyEnable c tok) (h : step W s (.runMon ch) = some s') :
    s'.mon = .enableReply c tok (W.valid s.view.cfg) false ∧ s'.view = s.view ∧
    s'.log = Obs.verify s.view.cfg (W.valid s.view.cfg) true :: s.log := by
  obtain rfl := (MonStep.verifyEnable c tok hm).eq h
  exact ⟨rfl, rfl, rfl⟩

/-- On success the caller gets that config and its serial and the delay ends; on failure it gets the
error and the delay stays in force (so it can be retried). -/
theorem C09_enable_reply (W : World) (s s' : State) (ch c tok ctx : Nat) (ok : Bool)
    (hm : s.mon = .enableReply c tok ok false) (hc : getC s.clients c = .waitResp ctx) (ht : ctx = tok)
    (h : step W s (.runMon ch) = some s') :
    s'.skipVerify = !ok ∧ s'.view = s.view ∧ s'.mon = .top ∧
    getC s'.clients c = .returned (if ok then .enableOk s.view else .enableErr) := by
  simp only [step, runMon, hm, Option.some.injEq] at h
  subst h
  subst ht
  simp [State.logAdd, hc, State.ret, getC_setC_self]

/-- The monitor goes to the verifying step exactly when the delay is in force; otherwise it answers
with the current version without verifying (no-op). -/
theorem C09_enable_dispatch (W : World) (s s' : State) (ch c tok : Nat)
    (hm : s.mon = .gotEnable c tok) (h : step W s (.runMon ch) = some s') :
    (s.skipVerify = true → s'.mon = .verifyEnable c tok) ∧
    (s.skipVerify = false → s'.mon = .enableReply c tok true true) ∧ s'.log = s.log := by
  simp only [step, runMon, hm] at h
  cases hs : s.skipVerify <;> simp [hs] at h <;> subst h <;> simp

/- The step-level statement below (given, verbatim) is FALSE for unreachable states: its first conjunct
fails at a hand-built state with `skipVerify = false` parked at `.enableReply c tok false false`
(see `C09_switch_on_only_by_enable_false`).  It is therefore not stated as a theorem; the reachable
version `C09_switch_on_only_by_enable_reachable` and the unconditional second half
`C09_switch_on_only_by_enable_second` are proved instead.

/-- Once verification is on it stays on; it is switched on only by a successful enable. -/
theorem C09_switch_on_only_by_enable (W : World) (s s' : State) (l : Label) (h : step W s l = some s') :
    (s.skipVerify = false → s'.skipVerify = false) ∧
    (s.skipVerify = true → s'.skipVerify = false →
      ∃ c tok ch, s.mon = .enableReply c tok true false ∧ l = .runMon ch) := by
  (no proof: the statement is false, see below)
-/

/-- counterexample to the step-level statement: `skipVerify = false`, monitor parked at
`.enableReply 7 7 false false`; the step sets `skipVerify := !false = true`. -/
theorem C09_switch_on_only_by_enable_false :
    ¬ (∀ (W : World) (s s' : State) (l : Label), step W s l = some s' →
      (s.skipVerify = false → s'.skipVerify = false) ∧
      (s.skipVerify = true → s'.skipVerify = false →
        ∃ c tok ch, s.mon = .enableReply c tok true false ∧ l = .runMon ch)) := by
  intro hall
  let s0 : State :=
    { initState ⟨false, true, false⟩ [0] [true] with skipVerify := false, mon := .enableReply 7 7 false false }
  let W : World := ⟨fun _ => true, fun _ => true⟩
  cases hs : step W s0 (.runMon 0) with
  | none => simp [step, runMon, s0] at hs
  | some s' =>
    have h1 := (hall W s0 s' (.runMon 0) hs).1 rfl
    obtain rfl := (MonStep.enableReply (s := s0) 7 7 false false rfl).eq (W := W) (ch := 0) hs
    cases h1

/-- Once verification is on it stays on; it is switched on only by a successful enable
(for reachable states). -/
theorem C09_switch_on_only_by_enable_reachable {W : World} {P : Params} {sl : Slots} {w : List Bool} {s s' : State}
    (hr : Reachable W P sl w s) (l : Label) (h : step W s l = some s') :
    (s.skipVerify = false → s'.skipVerify = false) ∧
    (s.skipVerify = true → s'.skipVerify = false →
      ∃ c tok ch, s.mon = .enableReply c tok true false ∧ l = .runMon ch) := by
  have hi := InvA.reachable hr
  rcases skip_step h with e | ⟨c, tok, ok, ch, hm, rfl, e⟩
  · rw [e]
    exact ⟨id, fun h1 h2 => by (rw [h1] at h2; cases h2)⟩
  · have hs := hi.ren c tok ok hm
    refine ⟨fun h1 => by (rw [hs] at h1; cases h1), fun _ h2 => ?_⟩
    rw [e] at h2
    have : ok = true := by simpa using h2
    subst this
    exact ⟨c, tok, ch, hm, rfl⟩

/-- The second half of the step-level statement holds in every state: the flag is switched off only
by the reply step of a successful verifying enable. -/
theorem C09_switch_on_only_by_enable_second (W : World) (s s' : State) (l : Label) (h : step W s l = some s') :
    (s.skipVerify = true → s'.skipVerify = false →
      ∃ c tok ch, s.mon = .enableReply c tok true false ∧ l = .runMon ch) := by
  intro h1 h2
  rcases skip_step h with e | ⟨c, tok, ok, ch, hm, rfl, e⟩
  · rw [e, h1] at h2; cases h2
  · rw [e] at h2
    have : ok = true := by simpa using h2
    subst this
    exact ⟨c, tok, ch, hm, rfl⟩

/-- From the successful enable on every re-stack is verified. -/
theorem C09_then_every_restack_verified {W : World} {P : Params} {sl : Slots} {w : List Bool} {s : State}
    (hr : Reachable W P sl w s) (v : Version) (hin : Obs.install v false ∈ s.log) : W.valid v.cfg = true := by
  obtain ⟨l2, h⟩ := (InvA.reachable hr).log.mem hin
  exact h.1 rfl

theorem C09_install_skip_flag {W : World} {P : Params} {sl : Slots} {w : List Bool} {s : State}
    (hr : Reachable W P sl w s) (v : Version) (l1 l2 : List Obs)
    (h : s.log = l1 ++ Obs.install v true :: l2) : ∀ o ∈ l2, o ≠ Obs.enabled true v ∧ ∀ v', o ≠ Obs.enabled true v' := by
  have hq := (InvA.reachable hr).log.split l1 _ l2 h
  intro o ho
  exact ⟨fun e => hq.2 rfl v (e ▸ ho), fun v' e => hq.2 rfl v' (e ▸ ho)⟩

/-- Global callbacks are withheld only while the delay is in force and the option is set:
a new-config event is marked suppressed exactly in that state, a source-reported error is ignored
exactly in that state, and OnNewConfig is skipped exactly for suppressed events. -/
theorem C09_suppression_exact {W : World} {P : Params} {sl : Slots} {w : List Bool} {s : State}
    (hr : Reachable W P sl w s) :
    (∀ old new supp skip, Obs.queued (.newCfg old new supp) skip ∈ s.log → supp = (skip && P.suppress)) ∧
    (∀ old new supp, Obs.dropped (.newCfg old new supp) ∈ s.log → supp = true → P.suppress = true ∧ P.delay = true) ∧
    (∀ e skip, Obs.srcErrIgnored e skip ∈ s.log → skip = true ∧ P.suppress = true ∧ P.delay = true) ∧
    (∀ ev skip, Obs.withheld ev skip ∈ s.log → ∃ old new, ev = .newCfg old new true) := by
  have hl := (InvA.reachable hr).log
  refine ⟨?_, ?_, ?_, ?_⟩
  · intro old new supp skip hm
    obtain ⟨l2, h⟩ := hl.mem hm
    exact h
  · intro old new supp hm
    obtain ⟨l2, h⟩ := hl.mem hm
    exact h
  · intro e skip hm
    obtain ⟨l2, h⟩ := hl.mem hm
    exact h
  · intro ev skip hm
    obtain ⟨l2, h⟩ := hl.mem hm
    exact h

/-- A source-reported error is forwarded in every other state. -/
theorem C09_source_error_forwarded (W : World) (s s' : State) (ch e : Nat)
    (hm : s.mon = .gotSrcErr e) (h : step W s (.runMon ch) = some s') :
    (¬ (s.skipVerify = true ∧ s.P.suppress = true) → s'.mon = .submitSrcErr e) ∧
    ((s.skipVerify = true ∧ s.P.suppress = true) → s'.mon = .top ∧ s'.cbch = s.cbch) := by
  simp only [step, runMon, hm, Facts.deliverSrcErr] at h
  cases hs : s.skipVerify <;> cases hp : s.P.suppress <;> simp [hs, hp] at h <;> subst h <;> simp

/-- F19a: ez, the library's own user of delayed verification, asks for BOTH options unconditionally (not, e.g., only
when the file is watched): verification delayed until ez itself enables it, and the global callbacks withheld until
then - so `C09_suppression_exact` applies to ez's re-stack with the config file in every ez configuration. -/
theorem C09_ez_asks_for_delay_and_suppression : Facts.ezDelay = true ∧ Facts.ezSuppress = true := by
  decide

/-- regenerated guards (F5, F6): the suppression expressions of the current source -/
theorem C09_guard_facts :
    (∀ sv su, Facts.suppressNew sv su = (sv && su)) ∧ (∀ sv su, Facts.deliverSrcErr sv su = !(sv && su)) ∧
    (∀ sv, Facts.verifyOnUpdate sv = !sv) ∧ (∀ d, Facts.initialSkipVerify d = d) ∧
    (∀ b, Facts.globalGate b = !b) := by
  simp [Facts.suppressNew, Facts.deliverSrcErr, Facts.verifyOnUpdate, Facts.initialSkipVerify, Facts.globalGate]

/-- The no-monitor fast path (no watching source) obeys the same contract: nothing is verified
without the delay, and with it the installed config is verified exactly once, its config and serial
are returned on success and the error on failure. -/
theorem C09_nowatch_path (W : World) (P : Params) (v : Version) :
    (P.delay = false → enableNoWatch W P v = (.enableOk v, [])) ∧
    (P.delay = true → W.valid v.cfg = true → enableNoWatch W P v = (.enableOk v, [.verify v.cfg true true])) ∧
    (P.delay = true → W.valid v.cfg = false → enableNoWatch W P v = (.enableErr, [.verify v.cfg false true])) := by
  refine ⟨?_, ?_, ?_⟩
  · intro h; simp [enableNoWatch, h]
  · intro h hv; simp [enableNoWatch, h, hv]
  · intro h hv; simp [enableNoWatch, h, hv]

end Dials.C09
