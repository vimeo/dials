/-
C05 — Incremental re-stacking equals a fresh stack; serials count installs.
(A config is the slot snapshot it was stacked from; that compose is a function of defaults and
slots is C01/C02.)
-/
import DialsModel.Model.RuntimeSpec
import DialsModel.Lemmas.RuntimeInv

namespace Dials.C05
open Dials Dials.Runtime

/-- the i-th installed version has serial i+1: no gap, no repetition -/
theorem C05_serial_succ {W : World} {P : Params} {sl : Slots} {w : List Bool} {s : State}
    (hr : Reachable W P sl w s) (i : Nat) (hi : i < s.installs.length) : (s.installs[i]).serial = i + 1 := by
  have h := (InvA_reachable hr).serOk
  have e := installs_eq s
  have hi' : i < (installsOf s.log).reverse.length := e ▸ hi
  have := SerOk_getElem h i hi'
  simp only [e]
  exact this

/-- the current view is the last installed version (the initial one if there is none) -/
theorem C05_view_is_last {W : World} {P : Params} {sl : Slots} {w : List Bool} {s : State}
    (hr : Reachable W P sl w s) : s.view = (s.versions sl).getLast (by simp [State.versions]) := by
  have h := (InvA_reachable hr).viewLast
  simp only [State.versions, installs_eq]
  rw [getLast_versions]
  exact h.symm

theorem C05_view_serial {W : World} {P : Params} {sl : Slots} {w : List Bool} {s : State}
    (hr : Reachable W P sl w s) : s.view.serial = s.installs.length := by
  have h := (InvA_reachable hr).viewSer
  simp [installs_eq, h]

/-- the monitor's slots hold each source's most recently received value -/
theorem C05_slots_latest {W : World} {P : Params} {sl : Slots} {w : List Bool} {s : State}
    (hr : Reachable W P sl w s) :
    s.slots = s.history.foldl (fun acc o => match o with | .gotUpd src v _ => setSlot acc src v | _ => acc) sl := by
  rw [State.history, List.foldl_reverse]
  exact (InvA_reachable hr).slotsEq.symm

/-- Between updates, whenever the stack of the latest values is good (stacks, and verifies unless
verification is skipped), the view IS that stack. -/
theorem C05_fresh_when_good {W : World} {P : Params} {sl : Slots} {w : List Bool} {s : State}
    (hr : Reachable W P sl w s) (hidle : s.mon.idle = true) (hs : W.stackOk s.slots = true)
    (hv : s.skipVerify = true ∨ W.valid s.slots = true) : s.view.cfg = s.slots := by
  have h := (InvA_reachable hr).monF
  have hp : s.mon.plain = true := by
    cases hm : s.mon <;> simp [hm, MonPc.idle] at hidle <;> rfl
  exact (MonFacts_plain hp).1 h hs hv

/-- A value that was REJECTED when it was reported (its stack did not verify then) is not forgotten: it is that
source's latest value, and as soon as the stack of the latest values of all sources is good again - because another
source changed - the view is the stack that contains it.  (Two watched files under a Verify that relates them, C17's
`two` mode: the file whose final content was rejected converges once the other file makes the whole valid.) -/
theorem C05_rejected_value_stays_in_the_stack {W : World} {P : Params} {sl : Slots} {w : List Bool} {s : State}
    (hr : Reachable W P sl w s) (hidle : s.mon.idle = true) (hs : W.stackOk s.slots = true)
    (hv : s.skipVerify = true ∨ W.valid s.slots = true) :
    s.view.cfg = s.history.foldl (fun acc o => match o with | .gotUpd src v _ => setSlot acc src v | _ => acc) sl := by
  rw [C05_fresh_when_good hr hidle hs hv]
  exact C05_slots_latest hr

/-- a config and serial read together belong together -/
theorem C05_pair_atomic {W : World} {P : Params} {sl : Slots} {w : List Bool} {s : State}
    (hr : Reachable W P sl w s) (c : Nat) (v : Version) (h : Obs.seen c v ∈ s.log) : v ∈ s.versions sl :=
  mem_versions (observed_ok hr h)

/-- no reader sees the serial go backwards (not even across different readers) -/
theorem C05_reader_monotone {W : World} {P : Params} {sl : Slots} {w : List Bool} {s : State}
    (hr : Reachable W P sl w s) (c1 c2 : Nat) (v1 v2 : Version)
    (h : Before s.history (.seen c1 v1) (.seen c2 v2)) : v1.serial ≤ v2.serial :=
  ordOk_of_before (InvC_reachable hr).sorted rfl rfl h

/-- the Events stream is a strictly increasing sequence of installed versions -/
theorem C05_events_increasing {W : World} {P : Params} {sl : Slots} {w : List Bool} {s : State}
    (hr : Reachable W P sl w s) (c1 c2 : Nat) (v1 v2 : Version)
    (h : Before s.history (.evRecv c1 v1) (.evRecv c2 v2)) : v1.serial < v2.serial :=
  ordOk_of_before (InvC_reachable hr).sorted rfl rfl h

theorem C05_events_are_installs {W : World} {P : Params} {sl : Slots} {w : List Bool} {s : State}
    (hr : Reachable W P sl w s) (c : Nat) (v : Version) (h : Obs.evRecv c v ∈ s.log) : v ∈ s.installs :=
  mem_installs.2 (observed_ok hr h)

/-- regenerated facts: the stored serial is the successor, and the event carries the stored serial -/
theorem C05_serial_facts : (∀ n, Facts.nextSerial n = n + 1) ∧ (∀ n, Facts.eventSerial n = Facts.nextSerial n) :=
  ⟨fun _ => rfl, fun _ => rfl⟩

/-- regenerated fact F4v: the model's view step reads the pair (serial, config) in ONE atomic step (`C05_pair_atomic`);
ViewVersion does that with exactly one atomic load of the versioned pointer and no other call -/
theorem C05_view_version_is_one_load : Facts.viewVersionLoads = 1 ∧ Facts.viewVersionOtherCalls = 0 := ⟨rfl, rfl⟩

end Dials.C05
