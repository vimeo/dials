/-
C16 — No input and no supported config type makes dials panic or hang.

Every model is a total Lean function (no `partial`; recursion is structural or by fuel) returning
`Outcome` = `.ok` | `.err` (Go `error`) | `.panic` (Go panic): termination is Lean's termination
check, and the content of the property is that `.panic` is unreachable on supported input.
Property theorems only; helper lemmas live in Lemmas/Total.lean and Lemmas/TotalEnv.lean.

CATALOGUE OF PANIC SITES of the anchored code and the model construct that stands for each
("—" = outside the models: observed by the correspondence harness harness/c16.go only).

  parse/parse_string.go String
    castVal.Elem() on a non-pointer (nested slice/map element)   `derefVal` → .panic "reflect: call of reflect.Value.Elem …"; guarded: fact F21a
    reflect.Append with an element of another type               — (values are untyped); guard = Convert, fact F21b
    castVal.Convert(t.Elem())                                     — (always convertible: same kind by construction of String)
  parse/map.go Map
    newKeyCast.Elem() / newValCast.Elem()                         `derefVal` after `parseScalar` (C16_parse_scalar_pointer)
    m.MapIndex / m.SetMapIndex with a key/value of another type   — ; guard = Convert, fact F21c
  parse/split_map.go, split_string_slice.go                       no indexing, no reflect: `splitSlice` / `splitSet` / `splitMapWith`
                                                                  are total for ANY token list (C16_split_total)
  parse/number.go, integral_slice.go                              no panicking operation: `parseNumber`, `parseIntSlice`
  parse/complex.go (go < 1.15 only) part[len(part)-1]             guarded by len(part) == 0; not compiled (build tag); —
  tagformat/caseconversion/case_conversion.go
    firstCharAfterInitialism: runes[i+1], runes[i+2]              `firstAfterInitialism` pattern `r2 :: _ :: _` (bounds by pattern)
    extractInitialisms: s[len(initialism):] in a restart loop     `extractLoop` with fuel `s.length + 1`; the fuel suffices
                                                                  (C16_extract_fuel_suffices): the Go loop terminates
    utf8.DecodeRuneInString on invalid UTF-8 / non-ASCII          — (the string models are ASCII): text stream of the harness
  transform/transformer.go
    layerMangledVal[off : off+len(out)]                           `unmangleLayer`: .panic "slice bounds out of range"
    v.Elem() / v.Index(l) / mf[z].Value.Index(l).Set(…)           `recurseVal`: .panic "ReverseTranslate of a non-struct" / "unexpected value kind …"
    field.Value.Convert(outField.Type()), outField.Set            — ; guards: facts F21n, F21o
    reflect.StructOf(layerFields) with duplicate / invalid names  — ; excluded by the property ("distinct flattened leaf names")
  transform/flatten_mangler.go
    populateStruct vs[inputIndex]                                 `populate`: .panic "index out of range"
    populateStruct originalVal.Set(setVal) (*struct into struct)  code repaired (P02): a struct held by value is stored as is, fact F21r; pointer levels:
                                                                  fact F21g.  The model's `populate` follows (no panic any more; the by-value struct is
                                                                  rebuilt: C16_env_value_struct_rebuilt)
    populateStruct nestedVal.Set / originalVal.Set (leaf)         — (untyped values); guards: facts F21h, F21i, F21j; finding P11
    isNil(val): val.IsNil()                                       `Val.isNil` (total); kind switch in the code
    GetField: explicit panic (missing dialsfieldpath tag)         — (tag always set by getTag)
  transform/alias_mangler.go Unmangle fvs[0], fvs[1], IsNil       `aliasUnmangle`: error for other lengths; fact F21m
  transform/anonymous_flatten_mangler.go fvs[0], fvs[fvsIdx],     `anonUnmangle`: .panic "index out of range"; NumField on a
    sf.Type.NumField()                                            non-struct: — ; repaired (P08): embedded pointers to non-structs
                                                                  are passed through, fact F21y
  transform/set_slice_mangler.go vs[0], SetMapIndex               `setSliceMangler`: .panic "index out of range"
  transform/single_type_substitution_mangler.go fval[0], Convert  `durSubMangler`: .panic "index out of range"; Convert: —
  transform/string_casting_mangler.go
    vs[0]                                                         `stringCastMangler`: .panic "index out of range"
    strPtrInterface.(*string)                                     .panic "not a *string"
    sf.Type.Elem() of a type without element type                 repaired (P02): now an error, guard `hasElemTy`:
                                                                  .err "cannot cast a string to a field that is not a pointer, slice or map"; fact F21s
    parsed.Convert(sf.Type)                                       — ; guarded by ConvertibleTo: fact F21e
  transform/text_unmarshaler_mangler.go vs[0], .(*string)         `textUnmarshalerMangler`: .panic "index out of range" / "not a *string"
  tagformat/expand_tags.go, reformat_tags.go vs[0], Convert       `tagCopyMangler`, `tagReformatMangler`: .panic "index out of range"
  sources/env/env.go explicit panic (empty dialsenv tag)          repaired (P05): now returns an error; `envValue`: .err "empty dialsenv tag"; fact F21p
  sources/env/env.go val.Field(i).Set(&envVarVal)                 — (every field is *string after the string cast)
  sources/flag/flag.go, sources/pflag/pflag.go                    — (no flag model): the kind / ConvertibleTo / name / shorthand checks now return
    ffield.IsNil(), Convert, Overflow*, flag.Var's own panics     errors (repaired P02, P04, P06, P07): facts F21u–F21x; remaining: the explicit
                                                                  panics in mkname / "field … is nil": harness only
  decoders/{json,yaml,toml,cue}: third-party Unmarshal            — : harness only; toml / cue: panics of the parser recovered into errors (repaired
                                                                  P09, P14), fact F21aa; `must(...)` at package init

What is proved (for ALL inputs, no bound):
  * the parsers: `parseNumber`, `parseIntSlice`, the scanners' state machines for any token list,
    `parseScalar` / `parseString` for every type and text;
  * case conversion: decoders/encoders are total functions; the fuel of `extractInitialismsWith`
    suffices for every initialism list without the empty string (and the regenerated list has none);
  * every shipped mangler's `mangle`, hence `translate` / `envNames` for every chain the facts
    translator can emit, never panic — for ANY field list;
  * the env source's chain (regenerated: `Facts.chainEnv`) never panics on field lists satisfying the
    decidable predicate `SupportedCfg` (Lemmas/TotalEnv.lean), for every environment, prefix, fuel and
    scanner token table.  `SupportedCfg` is: every struct nested behind a pointer; no array of structs
    as a bare leaf — nothing else.  Outside `SupportedCfg` each of the model's two remaining panics is
    reachable (counterexample theorems); neither is a panic of the real code: both are artefacts of the
    model's untyped `nilv` standing for a Go zero value that is not nil.  Since the repair of P02 was
    followed in the model's `populate` (a struct held by value receives the rebuilt struct itself) a lone
    by-value struct with its leaf set evaluates to the rebuilt value
    (C16_env_value_struct_rebuilt); what keeps by-value structs outside `SupportedCfg` is that an UNSET
    by-value struct is `nilv` in the model and meets the recursing alias mangler at a struct type as soon as
    a sibling field is set (C16_env_value_struct_sibling_model_artefact); the array one is the same kind
    of artefact (see the doc comments).  `SupportedCfg` is sufficient, not necessary.  The shapes of the repaired
    findings P02 (`Elem()` of a type without element type) and P05 (empty `dialsenv` tag) are inside
    `SupportedCfg` and evaluate to errors (C16_env_unwrapped_leaf_is_error, C16_env_empty_tag_is_error,
    C16_repaired_shapes_supported).
PARTIAL (named): arbitrary bytes into the four third-party parsers, non-ASCII text, the flag / pflag
sources and reflect's assignability (the transformer model's values are untyped) are outside the
models: implementation-only streams of harness/c16.go.
-/
import DialsModel.Lemmas.Total
import DialsModel.Lemmas.TotalEnv

namespace Dials.C16
open Dials Dials.Parse Dials.Tf Dials.CaseConv Dials.Total

/-- `parseNumber` (parse/number.go, integer kinds) returns a value or an error for every kind and text. -/
theorem C16_parse_number_total (k : IntKind) (s : Parse.Str) : ∀ c, parseNumber k s ≠ .panic c :=
  parseNumber_noPanic k s

/-- The integral slice parsers return a value or an error for every element kind and text. -/
theorem C16_parse_int_slice_total (k : IntKind) (s : Parse.Str) : ∀ c, parseIntSlice k s ≠ .panic c :=
  parseIntSlice_noPanic k s

/-- splitStringsSlice / StringSet's loop / splitMap never panic for ANY token stream the scanner could
deliver (including error and stray tokens), provided the add-callback does not. -/
theorem C16_split_total :
    (∀ (toks : List Parse.Tok) (inValue : Bool) (acc : List S) c, splitSlice toks inValue acc ≠ .panic c) ∧
    (∀ (toks : List Parse.Tok) (inValue : Bool) (acc : List S) c, splitSet toks inValue acc ≠ .panic c) ∧
    (∀ (add : List (S × S) → S → S → Outcome (List (S × S))), (∀ acc k v c, add acc k v ≠ .panic c) →
      ∀ (toks : List Parse.Tok) (st : MapSt) c, splitMapWith add toks st ≠ .panic c) :=
  ⟨fun toks iv acc => splitSlice_noPanic toks iv acc, fun toks iv acc => splitSet_noPanic toks iv acc,
   fun add hadd toks st => splitMapWith_noPanic add hadd toks st⟩

/-- StringSlice, StringSet, Map (string→string) and StringStringSliceMap never panic, for any token
stream and either value of the empty-input flag. -/
theorem C16_collections_total (e : Bool) (toks : List Parse.Tok) :
    (∀ c, stringSlice e toks ≠ .panic c) ∧ (∀ c, stringSet e toks ≠ .panic c) ∧
    (∀ c, mapStringString toks ≠ .panic c) ∧ (∀ c, mapStringStringSlice toks ≠ .panic c) :=
  ⟨stringSlice_noPanic e toks, stringSet_noPanic e toks, mapStringString_noPanic toks,
   mapStringStringSlice_noPanic toks⟩

/-- parse.String on scalars: never a panic, for every type of the universe (incl. user-defined named
scalars, unsupported kinds, structs, pointers) and every text. -/
theorem C16_parse_scalar_total (s : String) (t : Ty) : ∀ c, parseScalar s t ≠ .panic c :=
  (parseScalar_sat s t).noPanic

/-- A successfully parsed scalar is returned behind a pointer: the `.Elem()` every caller applies
(parse.Map, the slice case of parse.String, the string-cast mangler) cannot panic. -/
theorem C16_parse_scalar_pointer (s : String) (t : Ty) (v : Val) (h : parseScalar s t = .ok v) :
    ∃ w, v = .ptr w :=
  (parseScalar_sat s t).of_ok h

/-- parse.String never panics: every type (named or not, slices, maps, sets, nested, unsupported),
every text, every pair of scanner token streams. -/
theorem C16_parse_string_total (toks : TokTable) (s : String) (t : Ty) : ∀ c, parseString toks s t ≠ .panic c :=
  parseString_noPanic toks s t

/-- Case conversion is total: every decoder returns a word list or an error for every input and every
encoder returns a string for every word list (the Go functions contain no loop other than the ones
modelled by structural recursion and `extractLoop`). -/
theorem C16_caseconv_total :
    (∀ s, decodeGoCamel s = none ∨ ∃ ws, decodeGoCamel s = some ws) ∧
    (∀ s, ∃ ws, decodeGoTags s = some ws) ∧
    (∀ (sc : Scheme) s, sc.decode s = none ∨ ∃ ws, sc.decode s = some ws) ∧
    (∀ (sc : Scheme) ws, ∃ s, sc.encode ws = s) := by
  refine ⟨fun s => ?_, fun s => ⟨_, rfl⟩, fun sc s => ?_, fun sc ws => ⟨_, rfl⟩⟩
  · cases h : decodeGoCamel s with
    | none => exact Or.inl rfl
    | some ws => exact Or.inr ⟨ws, rfl⟩
  · cases h : sc.decode s with
    | none => exact Or.inl rfl
    | some ws => exact Or.inr ⟨ws, rfl⟩

/-- The restart loop of extractInitialisms terminates within `len(s) + 1` rounds: for an initialism
list without the empty string, giving the model's loop MORE fuel than `s.length + 1` never changes the
result (each successful round strictly shortens the text). -/
theorem C16_extract_fuel_suffices (inits : List CaseConv.Str) (hne : ([] : CaseConv.Str) ∉ inits)
    (s : CaseConv.Str) (n : Nat) (hn : s.length + 1 ≤ n) :
    extractLoop inits n s [] = extractInitialismsWith inits s :=
  extractInitialisms_fuel inits hne s n hn

/-- … and the list regenerated from the source (F11) contains no empty initialism, so the statement
applies to `extractInitialisms` as shipped.  (An empty entry would make the Go loop spin forever:
`strings.HasPrefix(s, "")` always holds and strips nothing.) -/
theorem C16_extract_fuel_shipped (s : CaseConv.Str) (n : Nat) (hn : s.length + 1 ≤ n) :
    extractLoop initialisms n s [] = extractInitialisms s :=
  extractInitialisms_fuel initialisms (fun h => Nat.not_succ_le_zero 1 (initialisms_long [] h)) s n hn

/-- Every shipped mangler's Mangle (every constructor spec the facts translator can emit: alias, flatten,
anonymous flatten, set→slice, type substitution, string cast, text unmarshaler, tag copy, tag reformat,
with any arguments) returns fields or an error for EVERY field, supported or not. -/
theorem C16_mangle_total (fuel : Nat) (parse : String → Ty → Outcome Val) (spec : List String) (m : Mangler)
    (h : manglerOfSpec fuel parse spec = some m) (hd : Hdr) (t : Ty) : ∀ c, m.mangle hd t ≠ .panic c :=
  manglerOfSpec_mangleTotal fuel parse spec m h hd t

/-- TranslateType never panics: any chain of shipped manglers (env, flag, pflag, the decoders' chains and
every sub-chain), any field list, any fuel. -/
theorem C16_translate_total (fuel : Nat) (parse : String → Ty → Outcome Val) (specs : List (List String))
    (ms : List Mangler) (h : chainOfSpecs fuel parse specs = some ms) (fs : List FT) :
    ∀ c, translate fuel ms fs ≠ .panic c :=
  translate_noPanic fuel ms (chainOfSpecs_mangleTotal fuel parse specs ms h) fs

/-- The derivation of the environment variable names never panics (any chain, any field list). -/
theorem C16_env_names_total (fuel : Nat) (parse : String → Ty → Outcome Val) (specs : List (List String))
    (ms : List Mangler) (h : chainOfSpecs fuel parse specs = some ms) (pfx : String) (fs : List FT) :
    ∀ c, envNames fuel ms pfx fs ≠ .panic c :=
  envNames_noPanic fuel ms (chainOfSpecs_mangleTotal fuel parse specs ms h) pfx fs

/-- The environment source never panics on a supported config type: for the chain regenerated from
sources/env/env.go (`envChain` = `Facts.chainEnv`), every field list satisfying the decidable
`SupportedCfg` (every struct nested behind a pointer, no array of structs as a bare nested leaf —
nothing else: since the repairs of P05 and P02 an empty `dialsenv` tag and a nested field without
element type are errors, not panics; both remaining exclusions are artefacts of the model's `nilv`, see
`C16_env_value_struct_sibling_model_artefact` and Lemmas/TotalEnv.lean), every
environment, prefix, scanner token table and fuel: the result is a value or an error.  Includes
user-defined named scalars, slices, maps, sets, user pointers (`**T` on scalars), nested
pointer-to-structs, slices of structs, alias tags at any depth, scalar / duration / text-unmarshaler
fields that Pointerify did not wrap (behind `**T`), fields with empty or missing `dialsenv` tags. -/
theorem C16_env_total (fuel : Nat) (toks : TokTable) (pfx : String) (fs : List FT)
    (lookup : String → Option String) (h : SupportedCfg fuel fs = true) :
    ∀ c, envValue fuel (envChain fuel toks) pfx fs lookup ≠ .panic c :=
  envValue_noPanic fuel toks pfx fs lookup h

/-- A struct nested BY VALUE below a pointer (`P *struct{ X struct{ A *int } }`, variable P_X_A set).  Before the
repair of P02 this reached `reflect.Set` of a `*struct` into a `struct` in populateStruct / the model's `populate`
(`.panic "reflect.Set: *struct into struct"`); since the repair (fact F21r) populateStruct stores the rebuilt
struct itself, the model follows, and the environment source returns the value with `X` rebuilt by value
inside the allocated `*P`.  With nothing set the value is unset. -/
theorem C16_env_value_struct_rebuilt :
    envValue 64 (envChain 64 cxToks) "" cxValueStruct (fun s => if s = "P_X_A" then some "1" else none) =
      .ok [.ptr (.struct [.struct [.ptr (.i 1)]])] ∧
    envValue 64 (envChain 64 cxToks) "" cxValueStruct (fun _ => none) = .ok [.nilv] := by
  -- evaluation: see "concrete evaluation" in Lemmas/TotalEnv.lean
  rw [envChain_eq, flattenManglerK_eq]
  set_option smartUnfolding false in exact ⟨rfl, rfl⟩

/-- Outside `SupportedCfg` (1) — a MODEL artefact, not an implementation panic: a struct nested by value
NEXT TO A SIBLING (`P *struct{ B *int; X struct{ A *int } }`).  With `X`'s own leaf set both are rebuilt;
with only the sibling `B` set, `populate` leaves the unset by-value struct as `nilv` (the model has no
zero struct; `.nilv` stands for it), and the recursing alias mangler meets that `nilv` at a struct type:
`ReverseTranslate of a non-struct`.  The real code hands the zero struct through.  This is why
`SupportedCfg` (`okField`) still excludes structs held by value although `populate` no longer panics on
them: enlarging it to them would make `C16_env_total` false for the model. -/
theorem C16_env_value_struct_sibling_model_artefact :
    envValue 64 (envChain 64 cxToks) "" cxValueStructSibling (fun s => if s = "P_X_A" then some "1" else none) =
      .ok [.ptr (.struct [.nilv, .struct [.ptr (.i 1)]])] ∧
    envValue 64 (envChain 64 cxToks) "" cxValueStructSibling (fun s => if s = "P_B" then some "1" else none) =
      .panic "ReverseTranslate of a non-struct" := by
  rw [envChain_eq, flattenManglerK_eq]
  set_option smartUnfolding false in exact ⟨rfl, rfl⟩

/-- `P **struct{ A int }` with P_A set: since the repair of P02 the string-cast mangler returns an error
for a field type without element type (before: reflect panicked in Type.Elem); the model follows; the
type is inside `SupportedCfg` (C16_repaired_shapes_supported). -/
theorem C16_env_unwrapped_leaf_is_error :
    envValue 64 (envChain 64 cxToks) "" cxUnwrappedLeaf (fun s => if s = "P_A" then some "1" else none) =
      .err "cannot cast a string to a field that is not a pointer, slice or map" := by
  rw [envChain_eq, flattenManglerK_eq]
  set_option smartUnfolding false in rfl

/-- A field whose name decodes to no word (`dials:"_"`) or with an explicitly empty `dialsenv:""` tag,
whatever the environment: since the repair of P05 env.go returns the error instead of panicking (before:
explicit panic "empty dialsenv tag for field name A"); the model follows; both types are inside
`SupportedCfg` (C16_repaired_shapes_supported). -/
theorem C16_env_empty_tag_is_error (lookup : String → Option String) :
    envValue 64 (envChain 64 cxToks) "" cxEmptyTag lookup = .err "empty dialsenv tag" ∧
    envValue 64 (envChain 64 cxToks) "" cxEmptyEnvTag lookup = .err "empty dialsenv tag" := by
  rw [envChain_eq, flattenManglerK_eq]
  set_option smartUnfolding false in exact ⟨rfl, rfl⟩

/-- Outside `SupportedCfg` (2) — a MODEL artefact, not an implementation panic: an array of structs as a
bare flattened leaf (`P **struct{ R [2]struct{ A *int } }`, nothing set).  The model's untyped `nilv`
stands for "unset", which a Go array cannot be: the real code passes the zero array through the recursing
manglers without panicking.  `SupportedCfg` excludes the shape so that the theorem stays about panics
the code can have. -/
theorem C16_env_array_of_structs_model_artefact :
    envValue 64 (envChain 64 cxToks) "" cxArrayOfStructs (fun _ => none) =
      .panic "unexpected value kind in recursive unmangle" := by
  rw [envChain_eq, flattenManglerK_eq]
  set_option smartUnfolding false in rfl

/-- Both counterexample types are indeed outside `SupportedCfg` (the predicate is not vacuous the other
way: it rejects these shapes); so is the lone by-value struct of `C16_env_value_struct_rebuilt`, on which
the model does not panic: `SupportedCfg` is sufficient, not necessary. -/
theorem C16_counterexamples_unsupported :
    SupportedCfg 64 cxValueStructSibling = false ∧ SupportedCfg 64 cxArrayOfStructs = false ∧
    SupportedCfg 64 cxValueStruct = false := by
  decide

/-- The three shapes whose panics were repaired into errors (P02: `P **struct{ A int }`; P05: `dials:"_"`,
`dialsenv:""`) are inside `SupportedCfg`: `C16_env_total` covers them. -/
theorem C16_repaired_shapes_supported :
    SupportedCfg 64 cxUnwrappedLeaf = true ∧ SupportedCfg 64 cxEmptyTag = true ∧
    SupportedCfg 64 cxEmptyEnvTag = true := by
  decide

/-- The guard sites of the catalogue that the models rely on without representing them (reflect's typed
operations), as found in the current source by the facts translator (F21a–F21aa): the Convert calls and
the pointer guard of parse.String / parse.Map / the string-cast mangler (repairs of D8, D19), its kind
guard before Type.Elem and its boxing as a user-defined pointer type (repairs of P02, P11), the
pointer-level rebuild from the declared types, nil guards, assignability and CanSet checks and the
by-value struct case of populateStruct (repairs of D18, P02, P03, P11), the flatten mangler's nil-ability
and count checks, the alias mangler's length switch and un-embedded copy (P10), ReverseTranslate's
ConvertibleTo check and FieldByIndexErr, the env source's error for an empty tag (P05), the flag sources'
kind / convertibility / name / shorthand checks (P02, P04, P06, P07), the anonymous-flatten mangler's
struct guards (P08) and the recover around the TOML and CUE parsers (P09, P14).  Reverting a repair or
removing a guard makes this false. -/
theorem C16_guard_facts :
    Facts.parseStringElemGuard = true ∧ Facts.parseStringConvertsElem = true ∧ Facts.parseMapConverts = true ∧
    Facts.parseMapDupCheck = true ∧ Facts.stringCastConverts = true ∧ Facts.stringCastNilGuard = true ∧
    Facts.populateRebuildsPtrLevels = true ∧ Facts.populateNilGuards = 2 ∧ Facts.populateChecksAssignable = true ∧
    Facts.populateCanSetChecks = 2 ∧ Facts.flattenRejectsNonNilable = true ∧ Facts.flattenCountCheck = true ∧
    Facts.aliasLengthSwitch = true ∧ Facts.reverseChecksConvertible = true ∧ Facts.reverseFieldByIndexErr = true ∧
    Facts.envErrorsOnEmptyTag = true ∧ Facts.populateLeafChecksAssignable = true ∧ Facts.populateValueStruct = true ∧
    Facts.stringCastElemGuard = true ∧ Facts.stringCastBoxesNamedPtr = true ∧ Facts.flagKindGuards = 2 ∧
    Facts.flagConvertGuards = 2 ∧ Facts.flagNameChecked = true ∧ Facts.pflagShorthandChecked = true ∧
    Facts.anonFlattenStructGuards = 2 ∧ Facts.aliasCopyNotEmbedded = true ∧ Facts.decodersRecover = 2 := by
  decide

/-- non-vacuity of `C16_env_total`: a config with a pointer to a struct holding a nested pointer-to-struct, a
named scalar, a slice, a map and a `**bool`, a `dials`-tagged field and an aliased field is supported, and
the env source returns a value for it with two variables set -/
example : SupportedCfg 200 okCfg = true ∧
    (∀ c, envValue 200 (envChain 200 cxToks) "" okCfg
      (fun s => if s = "P_Q_A" then some "7" else if s = "OLD_U" then some "x" else none) ≠ .panic c) :=
  ⟨by decide, envValue_noPanic 200 cxToks "" okCfg _ (by decide)⟩

/-- non-vacuity of `C16_parse_string_total`: a slice of a user-defined int8 type parses, and overflows to an error -/
example : (parseString (fun _ => ([Parse.Tok.word "1".toList, .comma, .word "2".toList, .eof], [])) "1,2"
      (.slice (.basic (.int .i8) true))).isOk = true ∧
    (match parseString (fun _ => ([Parse.Tok.word "1".toList, .comma, .word "200".toList, .eof], [])) "1,200"
      (.slice (.basic (.int .i8) true)) with
     | .err c => c == "overflow"
     | _ => false) = true := by
  decide

end Dials.C16
