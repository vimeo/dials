/-
C20 — Source wrappers are transparent for initial values and later updates.

The transformer of a mangler list is abstract (`Xf`: any `translate`, any `reverse`), the inner
source / decoder / watcher is any function or call sequence, a Blank's history is any finite list
of `Value` / `Watch` / `SetSource` / `Done` operations.
-/
import DialsModel.Lemmas.Wrap

set_option linter.unusedSectionVars false

namespace Dials.C20
open Dials Dials.Wrap

/-- `res` is a Go error that carries the message `c` of the error it wraps (`Unwrap` chain) -/
def Carries {α : Type} (res : Outcome α) (c : String) : Prop := ∃ p, res = .err (p ++ c)

section
variable {Ty Ty' Val Val' : Type} [Inhabited Ty'] [Inhabited Val'] [Inhabited Val]

/-- Value transparency of a transforming SOURCE, any mangler list, any inner source, any requested
type: the wrapper's `Value` succeeds exactly when translating the type, the inner source's `Value` ON
THE TRANSLATED TYPE and reverse-translating its answer all succeed, and then returns exactly that
reverse-translated answer — no value is invented, altered or dropped. -/
theorem C20_value_transparent (X : Xf Ty Ty' Val Val') (inner : Ty' → Outcome Val') (T : Ty) (v : Val) :
    wrappedValue srcRules X inner T = .ok v ↔
      ∃ T' v', X.translate T = .ok T' ∧ inner T' = .ok v' ∧ X.reverse T v' = .ok v :=
  wrappedValue_eq_ok srcRules rfl rfl rfl X inner T v

/-- Errors of a transforming source are propagated, none swallowed: whichever of the three steps
fails (type translation, the inner source's `Value`, reverse translation), the wrapper's `Value` returns
an error wrapping that step's error; a panic unwinds; and the wrapper returns no error of its own
making. -/
theorem C20_value_errors_propagated (X : Xf Ty Ty' Val Val') (inner : Ty' → Outcome Val') (T : Ty) :
    (∀ c, X.translate T = .err c → Carries (wrappedValue srcRules X inner T) c) ∧
    (∀ T' c, X.translate T = .ok T' → inner T' = .err c → Carries (wrappedValue srcRules X inner T) c) ∧
    (∀ T' v' c, X.translate T = .ok T' → inner T' = .ok v' → X.reverse T v' = .err c →
        Carries (wrappedValue srcRules X inner T) c) ∧
    (∀ T' c, X.translate T = .ok T' → inner T' = .panic c → wrappedValue srcRules X inner T = .panic c) ∧
    (∀ e, wrappedValue srcRules X inner T = .err e → ∃ c, Carries (Outcome.err e : Outcome Val) c ∧
        (X.translate T = .err c ∨ (∃ T', X.translate T = .ok T' ∧ inner T' = .err c) ∨
         (∃ T' v', X.translate T = .ok T' ∧ inner T' = .ok v' ∧ X.reverse T v' = .err c))) := by
  have herr := wrappedValue_eq_err srcRules rfl rfl rfl X inner T
  refine ⟨fun c ht => ⟨_, (herr _).2 (.inl ⟨c, ht, rfl⟩)⟩,
    fun T' c ht hi => ⟨_, (herr _).2 (.inr ⟨T', ht, .inl ⟨c, hi, rfl⟩⟩)⟩,
    fun T' v' c ht hi hr => ⟨_, (herr _).2 (.inr ⟨T', ht, .inr ⟨v', hi, c, hr, rfl⟩⟩)⟩,
    fun T' c ht hi => by rw [wrappedValue, ht, Wrap.guard, hi]; rfl, fun e h => ?_⟩
  obtain ⟨c, ht, rfl⟩ | ⟨T', ht, ⟨c, hi, rfl⟩ | ⟨v', hi, c, hr, rfl⟩⟩ := (herr e).1 h
  · exact ⟨c, ⟨_, rfl⟩, .inl ht⟩
  · exact ⟨c, ⟨_, rfl⟩, .inr (.inl ⟨T', ht, hi⟩)⟩
  · exact ⟨c, ⟨_, rfl⟩, .inr (.inr ⟨T', v', ht, hi, hr⟩)⟩

/-- The same two statements for a transforming DECODER (`NewTransformingDecoder`; `dec` is the inner
decoder applied to the reader's bytes): `Decode` succeeds exactly when all three steps do, with the
reverse-translated value of the inner decoder's answer on the translated type … -/
theorem C20_decode_transparent (X : Xf Ty Ty' Val Val') (dec : Ty' → Outcome Val') (T : Ty) (v : Val) :
    wrappedValue decRules X dec T = .ok v ↔
      ∃ T' v', X.translate T = .ok T' ∧ dec T' = .ok v' ∧ X.reverse T v' = .ok v :=
  wrappedValue_eq_ok decRules rfl rfl rfl X dec T v

/-- … and every failing step's error comes back from `Decode`. -/
theorem C20_decode_errors_propagated (X : Xf Ty Ty' Val Val') (dec : Ty' → Outcome Val') (T : Ty) :
    (∀ c, X.translate T = .err c → Carries (wrappedValue decRules X dec T) c) ∧
    (∀ T' c, X.translate T = .ok T' → dec T' = .err c → Carries (wrappedValue decRules X dec T) c) ∧
    (∀ T' v' c, X.translate T = .ok T' → dec T' = .ok v' → X.reverse T v' = .err c →
        Carries (wrappedValue decRules X dec T) c) := by
  have herr := wrappedValue_eq_err decRules rfl rfl rfl X dec T
  exact ⟨fun c ht => ⟨_, (herr _).2 (.inl ⟨c, ht, rfl⟩)⟩,
    fun T' c ht hi => ⟨_, (herr _).2 (.inr ⟨T', ht, .inl ⟨c, hi, rfl⟩⟩)⟩,
    fun T' v' c ht hi hr => ⟨_, (herr _).2 (.inr ⟨T', ht, .inr ⟨v', hi, c, hr, rfl⟩⟩)⟩⟩

/-- `Watch` of a transforming source around a watcher: it succeeds exactly when the type translates
and the inner watcher's `Watch` on the translated type succeeds; both errors are propagated; and the
wrapper is a `dials.Watcher` exactly when the inner source is one. -/
theorem C20_watch_transparent (X : Xf Ty Ty' Val Val') (innerWatch : Ty' → Outcome Unit) (T : Ty) :
    (wrappedWatch X innerWatch T = .ok () ↔ ∃ T', X.translate T = .ok T' ∧ innerWatch T' = .ok ()) ∧
    (∀ c, X.translate T = .err c → Carries (wrappedWatch X innerWatch T) c) ∧
    (∀ T' c, X.translate T = .ok T' → innerWatch T' = .err c → Carries (wrappedWatch X innerWatch T) c) ∧
    (∀ w, wrappedIsWatcher w = w) := by
  have h1 : Facts.wrapWatchTranslateErr = some _ := rfl
  have h2 : Facts.wrapWatchInnerErr = some _ := rfl
  unfold wrappedWatch
  rw [h1, h2]
  refine ⟨?_, fun c ht => ⟨_, (guard_eq_err ..).2 (.inl ⟨c, ht, rfl⟩)⟩,
    fun T' c ht hi => ⟨_, (guard_eq_err ..).2 (.inr ⟨T', ht, (guard_eq_err ..).2 (.inl ⟨c, hi, rfl⟩)⟩)⟩,
    fun w => Bool.true_and w⟩
  simp only [guard_eq_ok]
  exact ⟨fun ⟨T', ht, _, hi, _⟩ => ⟨T', ht, hi⟩, fun ⟨T', ht, hi⟩ => ⟨T', ht, _, hi, trivial⟩⟩

/-- Update transparency, for every call sequence of the inner watcher on the `WatchArgs` it was
given (both `ReportNewValue` and `BlockingReportNewValue`, `Done`, `ReportError`, in any order and
number): the sequence of messages reaching dials through the wrapper IS the sequence a source
producing the requested type natively would have sent — every reported value arrives
reverse-translated, by the same method (blocking stays blocking), in order; `Done` and `ReportError`
pass through; a value that cannot be reverse-translated is not delivered (its error goes back to
the reporter: `C20_report_result`).  Depends on the regenerated method set of `wrappedWatchArgs`
(fact F16): it fails to check if either report method is no longer overridden. -/
theorem C20_updates_transparent (X : Xf Ty Ty' Val Val') (T : Ty) (under : Msg Val Val' → Outcome Unit)
    (calls : List (Call Val')) :
    delivered watchOverrides X T under calls = calls.filterMap (native X T) := by
  induction calls with
  | nil => rfl
  | cons c cs ih =>
    have hc := wrappedCall_fst X T under c
    unfold delivered at ih ⊢
    rw [List.flatMap_cons, ih, hc, List.filterMap_cons]
    cases native X T c <;> simp

/-- When every reported value reverse-translates, nothing is lost: `n` reports give exactly the `n`
reverse-translated values, each by the method it was reported with. -/
theorem C20_updates_all_arrive (X : Xf Ty Ty' Val Val') (T : Ty) (under : Msg Val Val' → Outcome Unit)
    (rs : List (Bool × Val' × Val)) (h : ∀ r ∈ rs, X.reverse T r.2.1 = .ok r.2.2) :
    delivered watchOverrides X T under (rs.map fun r => Call.report r.1 r.2.1) =
      rs.map fun r => Msg.value r.1 r.2.2 := by
  rw [C20_updates_transparent]
  induction rs with
  | nil => rfl
  | cons r rs ih =>
    have hr := h r (by simp)
    simp only [List.map_cons, List.filterMap_cons, native, hr]
    rw [ih (fun r' hr' => h r' (by simp [hr']))]

/-- What the inner watcher gets back from a report through the wrapper: dials' own answer for the
reverse-translated value, or the reverse-translation error (never nil for a value that was not
delivered). -/
theorem C20_report_result (X : Xf Ty Ty' Val Val') (T : Ty) (under : Msg Val Val' → Outcome Unit)
    (b : Bool) (v' : Val') :
    (∀ v, X.reverse T v' = .ok v → (wrappedCall watchOverrides X T under (.report b v')).2 = under (.value b v)) ∧
    (∀ c, X.reverse T v' = .err c → Carries (wrappedCall watchOverrides X T under (.report b v')).2 c) := by
  obtain ⟨p, hp⟩ := wrappedCall_report X T under b v'
  exact ⟨fun v hv => by rw [hp, hv], fun c hc => ⟨p, by rw [hp, hc]⟩⟩

/-- Consequently (the monitor is a function of the messages it receives — C04/C05): any observer of
dials, e.g. the sequence of `View()`s, cannot tell the wrapped watcher from a native one. -/
theorem C20_views_equal {α : Type} (dials : List (Msg Val Val') → α) (X : Xf Ty Ty' Val Val') (T : Ty)
    (under : Msg Val Val' → Outcome Unit) (calls : List (Call Val')) :
    dials (delivered watchOverrides X T under calls) = dials (calls.filterMap (native X T)) := by
  rw [C20_updates_transparent]

end

/-- The regenerated structural facts the models rely on without branching on them (tools/facts/wrap.go, F16b/d/e/f):
the wrappers call TranslateType, then the inner source / decoder / watcher WITH THE TRANSLATED TYPE, then
ReverseTranslate, in this order; `Watch` hands the inner watcher the wrapping args; and
`tagformat.ReformatDialsTagSource(inner, …)` is `NewTransformingSource(inner, <one tag-reformatting mangler>)`, so
everything above applies to it. -/
theorem C20_facts :
    Facts.wrapStepsInOrder = true ∧ Facts.wrapInnerGetsTranslatedType = true ∧
    Facts.wrapWatchPassesWrappedArgs = true ∧ Facts.reformatSourceIsTransforming = true ∧ Facts.missingFacts = [] := by
  decide

/-! ### Blank -/

/-- One `SetSource(s)` on a Blank in any state: the state afterwards.  Nothing changes when the
current inner source is a watcher or `s.Value` fails; in every other case — including a failing
report, a failing `Watch` of `s`, or a Blank that was never watched (panic) — `s` IS the inner
source afterwards (the code assigns `b.inner` before reporting). -/
theorem C20_blank_setSource_state (b : Blank) (s : Src) (rep : Bool) :
    (step code b (.setSource (some s) rep)).1 =
      if b.innerIsWatcher || !s.valueOk then b else { b with inner := some s } := by
  rw [step_setSource]
  cases b.innerIsWatcher <;> cases s.valueOk <;> rfl

/-- `SetSource` returns nil only after the blocking report returned nil: it returns nil exactly when
the Blank holds no watcher, `s.Value` succeeded, `Watch` had been called, the BLOCKING report of
that value answered nil and (for a watcher) `s.Watch` succeeded; and then the calls were, in this
order: `s.Value`, `BlockingReportNewValue`, and for a watcher `s.Watch`. -/
theorem C20_blank_setSource_nil (b : Blank) (s : Src) (rep : Bool) :
    ((step code b (.setSource (some s) rep)).2.2 = .nil ↔
      (b.innerIsWatcher = false ∧ s.valueOk = true ∧ b.wa = true ∧ rep = true ∧ (s.watcher = true → s.watchOk = true))) ∧
    ((step code b (.setSource (some s) rep)).2.2 = .nil →
      (step code b (.setSource (some s) rep)).2.1 =
        [.innerValue s.id, .report s.id true] ++ (if s.watcher then [.innerWatch s.id] else [])) := by
  rw [step_setSource]
  cases b.innerIsWatcher <;> cases s.valueOk <;> cases b.wa <;> cases rep <;> simp

/-- The same over whole histories: in any finite sequence of operations from any state, every
`SetSource` that returned nil had its blocking report answered nil. -/
theorem C20_blank_nil_only_after_report (b : Blank) (ops : List Op) :
    ∀ x ∈ ops.zip (run code b ops).2, ∀ s rep, x.1 = .setSource (some s) rep → x.2.2 = .nil →
      rep = true ∧ Ev.report s.id true ∈ x.2.1 := by
  refine (run_induction code (fun _ => True) _ (fun b op _ => ⟨trivial, ?_⟩) b ops trivial).2
  rintro s rep rfl hnil
  have h := C20_blank_setSource_nil b s rep
  exact ⟨(h.1.1 hnil).2.2.2.1, by rw [h.2 hnil]; simp⟩

/-- Blank delegates to the most recently set inner source, over ALL finite operation sequences on a
fresh Blank: with `candidates ops` the sources whose `Value` succeeded when handed to `SetSource`,
the inner source is the first watcher among them if there is one, else the most recent of them;
and `Value` returns exactly that source's `Value` (the zero value when there is none). -/
theorem C20_blank_delegates (ops : List Op) :
    (final code {} ops).inner = holder (candidates ops) ∧
    (step code (final code {} ops) .value).2 =
      (match holder (candidates ops) with
       | some s => ([.innerValue s.id], .innerResult s.id s.valueOk)
       | none => ([], .zeroValue)) := by
  rw [final_fresh, step_value]
  exact ⟨rfl, by cases holder (candidates ops) <;> rfl⟩

/-- … so as long as no watcher was set it is the most recently set source … -/
theorem C20_blank_most_recent (ops : List Op) (h : (candidates ops).any (·.watcher) = false) :
    (final code {} ops).inner = (candidates ops).getLast? := by
  have : (candidates ops).find? (·.watcher) = none := by simpa using h
  rw [(C20_blank_delegates ops).1, holder, this]

/-- … and once a watcher `w` was set (`SetSource` got past its `Value`), it stays the inner source
whatever is done afterwards. -/
theorem C20_blank_watcher_stays (ops : List Op) (pre post : List Src) (w : Src)
    (hc : candidates ops = pre ++ w :: post) (hpre : pre.any (·.watcher) = false) (hw : w.watcher = true) :
    (final code {} ops).inner = some w := by
  have : pre.find? (·.watcher) = none := by simpa using hpre
  rw [(C20_blank_delegates ops).1, hc, holder, List.find?_append, this]
  simp [hw]

/-- Blank refuses to replace a watching inner source and changes nothing then: in any state whose
inner source is a watcher, every `SetSource` (any source, nil included) fails, calls nothing (not even
the new source's `Value`) and leaves the state as it was … -/
theorem C20_blank_refuses (b : Blank) (hw : b.innerIsWatcher = true) (s : Option Src) (rep : Bool) :
    (step code b (.setSource s rep)).1 = b ∧ (step code b (.setSource s rep)).2.1 = [] ∧
      (step code b (.setSource s rep)).2.2 ≠ .nil := by
  cases s with
  | none => exact step_setSource_nil b rep
  | some s =>
    rw [step_setSource]
    simp [hw]

/-- … and this holds for the rest of the Blank's life: after ANY further finite sequence of
operations the inner source is still that watcher, every `SetSource` in the sequence failed without
calling anything, and no `Done` was forwarded. -/
theorem C20_blank_refuses_forever (b : Blank) (hw : b.innerIsWatcher = true) (ops : List Op) :
    (final code b ops).inner = b.inner ∧
    ∀ x ∈ ops.zip (run code b ops).2,
      (∀ s rep, x.1 = .setSource s rep → x.2.1 = [] ∧ x.2.2 ≠ .nil) ∧ (x.1 = .done → x.2.1 = []) := by
  have hw' : ∀ b' : Blank, b'.inner = b.inner → b'.innerIsWatcher = true := fun b' h => by
    rw [← hw, Blank.innerIsWatcher, h, Blank.innerIsWatcher]
  refine run_induction code (·.inner = b.inner) _ (fun b' op h => ?_) b ops rfl
  cases op with
  | value => rw [step_value]; exact ⟨by split <;> exact h, nofun, nofun⟩
  | watch => rw [step_watch]; exact ⟨by split <;> exact h, nofun, nofun⟩
  | done => rw [step_done]; exact ⟨h, nofun, fun _ => by simp [hw' b' h]⟩
  | setSource s rep =>
    have hr := C20_blank_refuses b' (hw' b' h) s rep
    exact ⟨by rw [hr.1]; exact h, fun s' rep' e => by cases e; exact hr.2, nofun⟩

/-- `Done` is forwarded iff watch args are set and the inner source is not a watcher (any state);
it never changes the Blank and never fails. -/
theorem C20_blank_done (b : Blank) :
    step code b .done = (b, if b.wa && !b.innerIsWatcher then [.doneFwd] else [], .nil) :=
  step_done b

/-- Over histories: after ANY finite sequence of operations on a fresh Blank, a `Done` is forwarded
to dials exactly when `Watch` has been called and no watcher has been set so far — i.e. only while
the Blank still owns the watch slot. -/
theorem C20_blank_done_history (pre : List Op) :
    (step code (final code {} pre) .done).2.1 =
      if watched pre && !(candidates pre).any (·.watcher) then [.doneFwd] else [] := by
  rw [final_fresh, step_done, holder_any_watcher]

/-- `Watch` can be called once; `wa` and `t` are set together, in every reachable state. -/
theorem C20_blank_watch_once (ops : List Op) :
    (final code {} ops).wa = (final code {} ops).t ∧ (final code {} ops).wa = watched ops ∧
    ((final code {} ops).t = true → (step code (final code {} ops) .watch).2.2 ≠ .nil ∧
        (step code (final code {} ops) .watch).1 = final code {} ops) := by
  rw [final_fresh, step_watch]
  exact ⟨rfl, rfl, fun ht => by simp [show watched ops = true from ht]⟩

/-! ### Non-vacuity -/

/-- a toy transformer: types are numbers (translation adds one), mangled values are strings,
reverse translation succeeds on non-empty strings -/
def toyX : Xf Nat Nat Nat String where
  translate := fun T => if T == 0 then .err "cannot translate" else .ok (T + 1)
  reverse := fun _ s => if s.length == 0 then .err "empty" else .ok s.length

example : wrappedValue srcRules toyX (fun T' => .ok (String.ofList (List.replicate T' 'x'))) 2 = .ok 3 := rfl
example : wrappedValue srcRules toyX (fun _ => .err "boom") 2 = .err "inner source failed: boom" := rfl
example : wrappedValue srcRules toyX (fun _ => .ok "") 2 = .err "unmangle failed: empty" := rfl
example : wrappedValue decRules toyX (fun _ => .ok "") 0 = .err "cannot translate" := rfl
example : delivered watchOverrides toyX 2 (fun _ => .ok ())
    [.report true "ab", .report false "", .done, .report false "abc", .reportError "e"] =
    [.value true 2, .done, .value false 3, .error "e"] := rfl

def srcA : Src := ⟨1, false, true, true⟩
def srcB : Src := ⟨2, false, true, true⟩
def srcW : Src := ⟨3, true, true, true⟩
def srcBad : Src := ⟨4, false, false, true⟩

example : (final code {} [.watch, .setSource (some srcA) true, .setSource (some srcBad) true, .setSource (some srcB) false]).inner
    = some srcB := rfl
example : (run code {} [.watch, .setSource (some srcW) true, .setSource (some srcA) true, .done, .value]).2 =
    [([], .nil), ([.innerValue 3, .report 3 true, .innerWatch 3], .nil),
     ([], .error "disallowed attempt to replace Watcher Source"), ([], .nil), ([.innerValue 3], .innerResult 3 true)] := rfl
example : (run code {} [.done, .watch, .setSource (some srcA) true, .done]).2 =
    [([], .nil), ([], .nil), ([.innerValue 1, .report 1 true], .nil), ([.doneFwd], .nil)] := rfl
example : (run code {} [.setSource (some srcA) true, .value]).2 =
    [([.innerValue 1], .panic "nil WatchArgs"), ([.innerValue 1], .innerResult 1 true)] := rfl

end Dials.C20
