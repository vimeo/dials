/-
C13 — file decoders agree: same data in JSON, YAML, TOML or Cue, same config.

Proved here, over the model of Model/Decode.lean, for EVERY config type in the domain `supported`, every data
value, every document, every third-party filler satisfying `FillContract` (one per format, possibly different):
  * the key under which each leaf is read is the format's own tag if the field has one, else its `dials` tag,
    at every depth the Transformer reaches (C13_key_rule, C13_key_path);
  * decoding the document that expresses data `x` gives back exactly `x`, in each of the four formats
    (C13_decode_render), hence the four decoders agree (C13_agree) — including durations written as strings or
    (JSON, Cue) as integer nanoseconds, sets written as lists through the set→slice wrapper, text leaves;
  * a field whose key is absent from the document is left nil (C13_absent_unset);
  * the result is an error without a value, or a complete value of the config type — never a panic, never a
    partly filled value (C13_error_or_full, C13_error_propagates, C13_field_error_fails_all).
  * YAML's FlattenAnonymous option: the library sees the embedded structs' keys spliced in, by the same tag rule
    (C13_flatten_keys), and un-flattening gives back exactly the value whose flattening was filled
    (C13_flatten_lossless, for types where a pointer-embedded struct has no plain struct field: `ptrEmbedOK`);
PARTIAL: the four parsers (bytes → document tree → filled struct) are assumed through `FillContract`
(inhabited: C13_contract_inhabited); arbitrary bytes / syntax errors are outside the model and covered by the
harness's corruption streams only.  Outside `supported`, the model exhibits two defects of the unchanged
tree (C13_map_of_struct_counterexample, C13_empty_tag_shadows); a third one (`[]time.Time`, D34) has been repaired
in /repo and is now a positive theorem (C13_slice_of_time).
-/
import DialsModel.Model.DecodeSpec
import DialsModel.Lemmas.Decode
import DialsModel.Lemmas.Duration

namespace Dials.C13
open Dials Dials.Decode

/-- The regenerated facts are the ones the theorems below are about: each decoder's mangler chain (constructor
    and arguments in source order), every decoder and the wrapper return an invalid value with the library's
    error, ParsingDuration takes strings and numbers, the Transformer's notion of struct-ish fields and its two
    TextUnmarshaler tests (on the field type and, after stripping pointer / slice / array, on the element type). -/
theorem C13_facts :
    Facts.missingFacts = [] ∧
    chainOf .json false = [.durSub, .tagCopy "dials" "json"] ∧
    chainOf .cue false = [.durSub, .tagCopy "dials" "json"] ∧
    chainOf .yaml false = [.tagCopy "dials" "yaml"] ∧
    chainOf .yaml true = [.tagCopy "dials" "yaml", .anonFlatten] ∧
    chainOf .toml false = [.tagCopy "dials" "toml"] ∧
    (∀ f, checksErr f = true) ∧ Facts.wrapChecksInnerErr = true ∧
    Facts.pdurAcceptsString = true ∧ Facts.pdurAcceptsNumber = true ∧ Facts.setSliceNilStaysNil = true ∧
    Facts.structishKinds = ["Struct", "Ptr", "Array", "Slice"] ∧
    Facts.textSkipBeforeStrip = true ∧ Facts.textSkipAfterStrip = true := by
  exact ⟨rfl, chainOf_false .json, chainOf_false .cue, chainOf_false .yaml, rfl, chainOf_false .toml, checksErr_all,
    rfl, rfl, rfl, rfl, rfl, rfl, rfl⟩

/-- Tag precedence on one field: after the decoder's TagCopyingMangler the library's tag holds the format's
    own tag when the field has one, else the `dials` tag (`keyRule`).  Hypothesis: the format's tag is not
    present with an empty value. -/
theorem C13_key_rule (fmt : Fmt) (tg : Tags) (h : Tags.lookup tg fmt.libTag ≠ some "") :
    Tags.get (copyTags "dials" fmt.libTag tg) fmt.libTag = keyRule fmt tg := by
  exact copyTags_get "dials" fmt.libTag tg h

/-- The hypothesis of C13_key_rule is needed: an explicitly empty `json:""` shadows the copied tag
    (reflect.StructTag.Get returns the first pair), so the `dials` tag is not honoured. -/
theorem C13_empty_tag_shadows :
    Tags.get (copyTags "dials" "json" [("json", ""), ("dials", "x")]) "json" = "" ∧
    keyRule .json [("json", ""), ("dials", "x")] = "x" := by
  constructor <;> decide

/-- Key paths: for every config type in the reach of the Transformer, what the library sees after the decoder's
    chain (inside the set→slice wrapper or not) is the type keyed by `keyRule` at every depth, with every
    time.Duration replaced by ParsingDuration exactly for JSON and Cue, and (wrapper) sets as string lists. -/
theorem C13_key_path (fmt : Fmt) (wrap : Bool) (T : Ty) (hT : reachTy fmt T = true) :
    view fmt.libTag (translate (chainOf fmt false) (translate (wrapChain wrap) T)) = kview fmt wrap T := by
  exact key_path fmt wrap T hT

/-- Without anonymous fields YAML's FlattenAnonymous option changes nothing, for every type (since the repair of
    finding D34 no hypothesis on `[]time.Time` fields is needed: the flatten pass, like every pass, leaves them alone). -/
theorem C13_flatten_noop (T : Ty) (h : noAnon T = true) : flatTy T = T := by
  exact flatten_noop.1 T h

/-- FlattenAnonymous, types: after the YAML decoder's chain with the option set, the library sees, at each struct
    level the Transformer reaches, the keys of an embedded struct's fields (by the same tag rule) in place of the
    embedded field — whether or not the embedded field carries a tag of its own (finding D33b), and one level only
    (finding D33). -/
theorem C13_flatten_keys (fs : Fields) (hT : reachFields .yaml fs = true) :
    ∃ kfs, view "yaml" (translate (chainOf .yaml true) (.struct fs)) = .struct kfs ∧
      keysOf kfs = spliceKeys (keyRule .yaml) fs := by
  obtain ⟨_, _, _, _, hc, _⟩ := C13_facts
  rw [hc]
  refine ⟨_, rfl, ?_⟩
  rw [keysOf_flat]
  exact spliceKeys_pass .yaml (Pass.tagCopy "dials" "yaml") _ (keyRule .yaml) (C13_key_rule .yaml) (fun _ => rfl) fs hT

/-- FlattenAnonymous, values: un-flattening is the exact inverse of hoisting — the value the decoder returns for
    the flattened value that carries data `x` is `x` (AnonymousFlattenMangler.Unmangle regroups the hoisted fields;
    an embedded pointer all of whose fields are nil comes back as nil).
    The hypothesis `hT` is needed: a nil embedded pointer is carried after flattening by nil in each of its hoisted
    fields, and un-flattening runs `unflatTy` of each hoisted field's type on that nil: for a hoisted field of plain
    struct type this is the panic "reverse: struct value expected" (`embStructTy` with `x = struct{nil}`, see the
    `example` below).  `ptrEmbedOK T` says that, wherever the pass reaches, a POINTER-embedded struct has no field of
    plain struct type (pointerified config types satisfy it); nothing is asked of structs embedded by value. -/
theorem C13_flatten_lossless (T : Ty) (x : Val) (hT : ptrEmbedOK T = true) (h : flatOKVal T x = true) :
    unflatTy T (flatVal T x) = .ok x := by
  exact flat_roundtrip.1 T x hT h

/-- C13_flatten_lossless fails without `hT`: a nil `*E` where `E` has a struct-typed field -/
example : flatOKVal embStructTy (.struct [.nil]) = true ∧ ptrEmbedOK embStructTy = false ∧
    flatVal embStructTy (.struct [.nil]) = .struct [.nil] ∧
    unflatTy embStructTy (flatVal embStructTy (.struct [.nil])) = .panic "reverse: struct value expected" := by
  refine ⟨rfl, rfl, rfl, rfl⟩

/-- non-vacuity of C13_flatten_keys and C13_flatten_lossless on `embTy` (an embedded pointer, an embedded struct, a
    plain field): the keys the library sees; a nil and a non-nil embedded pointer coming back from the flattened value -/
example : reachFields .yaml embFields = true ∧ ptrEmbedOK embTy = true ∧
    (∃ kfs, view "yaml" (translate (chainOf .yaml true) embTy) = .struct kfs ∧ keysOf kfs = ["x", "y", "w", "z"]) ∧
    unflatTy embTy (.struct [.nil, .nil, .ptr (.str "w"), .nil])
      = .ok (.struct [.nil, .struct [.ptr (.str "w")], .nil]) ∧
    unflatTy embTy (.struct [.nil, .ptr (.int 3), .nil, .ptr (.str "z")])
      = .ok (.struct [.ptr (.struct [.nil, .ptr (.int 3)]), .struct [.nil], .ptr (.str "z")]) := by
  refine ⟨by decide, by decide, ?_, ?_, ?_⟩
  · obtain ⟨kfs, h1, h2⟩ := C13_flatten_keys embFields (by decide)
    exact ⟨kfs, h1, by rw [h2]; decide⟩
  · exact C13_flatten_lossless embTy (.struct [.nil, .struct [.ptr (.str "w")], .nil]) rfl rfl
  · exact C13_flatten_lossless embTy
      (.struct [.ptr (.struct [.nil, .ptr (.int 3)]), .struct [.nil], .ptr (.str "z")]) rfl rfl

/-- The reference filler satisfies the contract (non-vacuity of every theorem that assumes it). -/
theorem C13_contract_inhabited (E : Ext) (fmt : Fmt) : FillContract E fmt (refFill E fmt) := by
  exact refFill_contract E fmt

/-- On keyed types: a contract-satisfying filler reads back exactly the data a document was rendered from. -/
theorem C13_fill_render (E : Ext) (fmt : Fmt) (fill : KTy → Doc → Outcome Val) (hC : FillContract E fmt fill)
    (intDur : Int → Bool) (K : KTy) (x : Val) (hK : keysOK K = true) (hx : wt E fmt K x = true) :
    fill K (renderK E fmt intDur K x) = .ok x := by
  exact (fill_render E fmt fill hC intDur).1 K hK x hx

/-- Decoding the document that expresses `x` gives `x`: in every format, for every contract-satisfying library,
    every supported config type, every well-typed data value with any subset of keys present (nil fields),
    durations as strings or (JSON / Cue, per value: `intDur`) integer nanoseconds, sets as lists (wrapper). -/
theorem C13_decode_render (E : Ext) (fmt : Fmt) (wrap : Bool) (L : Lib) (hC : FillContract E fmt L.fill)
    (intDur : Int → Bool) (T : Ty) (x : Val)
    (hT : supported fmt wrap T = true) (hx : wtData E fmt wrap T x = true) :
    decode fmt false wrap L T (render E fmt wrap intDur T x) = .ok x := by
  simp only [supported, Bool.and_eq_true] at hT
  simp only [wtData, Bool.and_eq_true] at hx
  rw [decode_eq fmt wrap L T _ hT.1, render, C13_fill_render E fmt L.fill hC intDur _ _ hT.2 hx.1]
  cases wrap
  · rfl
  · exact set_roundtrip.1 T x hx.2

/-- Agreement: the four decoders, each with its own library, give the same config value for documents
    expressing the same data. -/
theorem C13_agree (E : Ext) (L : Fmt → Lib) (hC : ∀ f, FillContract E f (L f).fill) (wrap : Bool)
    (intDur : Fmt → Int → Bool) (T : Ty) (x : Val)
    (hT : ∀ f, supported f wrap T = true) (hx : ∀ f, wtData E f wrap T x = true) (f g : Fmt) :
    decode f false wrap (L f) T (render E f wrap (intDur f) T x)
      = decode g false wrap (L g) T (render E g wrap (intDur g) T x) := by
  rw [C13_decode_render E f wrap (L f) (hC f) (intDur f) T x (hT f) (hx f),
    C13_decode_render E g wrap (L g) (hC g) (intDur g) T x (hT g) (hx g)]

/-- Absent keys leave leaves unset: for ANY map document (not only rendered ones), a nil-able field whose key
    does not occur in the document is nil in the decoded value. -/
theorem C13_absent_unset (E : Ext) (fmt : Fmt) (wrap : Bool) (L : Lib) (hC : FillContract E fmt L.fill)
    (fs : Fields) (kvs : List (String × Doc)) (vs : List Val)
    (hT : supported fmt wrap (.struct fs) = true) (hk : nodupKeys kvs = true)
    (hdec : decode fmt false wrap L (.struct fs) (.map kvs) = .ok (.struct vs))
    (i : Nat) (tg : Tags) (t : Ty) (hf : Fields.get? fs i = some (tg, t)) (hn : nilableTy t = true)
    (habs : lookupD (keyRule fmt tg) kvs = none) :
    vs[i]? = some .nil := by
  rw [decode_struct E fmt wrap L hC fs kvs hT hk] at hdec
  obtain ⟨v, hv, hrev⟩ := obind_ok_inv hdec
  obtain ⟨ws, hws, rfl⟩ := omap_ok_inv hv
  obtain ⟨w, hw, hfw⟩ := fillFields_get L.fill (keyRule fmt) fmt.subs wrap kvs fs ws i tg t hws hf
  rw [fillField, habs, zeroK_nilable _ (nilable_kv _ _ _ t hn)] at hfw
  cases hfw
  cases wrap
  · cases hrev; exact hw
  · obtain ⟨vs', hvs', hEq⟩ := omap_ok_inv (hrev : omap Val.struct (unpassFields unSetLeaf fs ws) = _)
    cases hEq
    obtain ⟨v, hv, hu⟩ := unpassFields_get unSetLeaf fs ws vs i tg t .nil hvs' hf hw
    rw [unpass_nil t hn] at hu
    cases hu
    exact hv

/-- Error or full value: for any document the decoder returns an error (and then no value at all), or a complete
    value of the config type; it never panics and nothing in between exists. -/
theorem C13_error_or_full (E : Ext) (fmt : Fmt) (wrap : Bool) (L : Lib) (hC : FillContract E fmt L.fill)
    (T : Ty) (d : Doc) (hT : supported fmt wrap T = true) :
    (∃ c, decode fmt false wrap L T d = .err c) ∨
    (∃ v, decode fmt false wrap L T d = .ok v ∧ shape T v = true) := by
  simp only [supported, Bool.and_eq_true] at hT
  rw [decode_eq fmt wrap L T d hT.1]
  cases h : L.fill (kview fmt wrap T) d with
  | ok v => exact .inr (reverse_shape fmt wrap T v hT.1 (hC.shape _ _ _ h)).ok
  | err c => exact .inl ⟨c, rfl⟩
  | panic c => exact absurd h (hC.total _ _ _)

/-- An error of the library is the decoder's result, whatever the library had already written (with or without
    the wrapper, with or without FlattenAnonymous). -/
theorem C13_error_propagates (fmt : Fmt) (flatten wrap : Bool) (L : Lib) (T : Ty) (d : Doc) (c : String)
    (h : L.fill (view fmt.libTag (translate (chainOf fmt flatten) (translate (wrapChain wrap) T))) d = .err c) :
    decode fmt flatten wrap L T d = .err c := by
  unfold decode
  simp only [h, checksErr_all, if_true]
  simp [Facts.wrapChecksInnerErr]

/-- One ill-typed field fails the whole document: if the document under some field's key is refused by the
    library, no value comes out. -/
theorem C13_field_error_fails_all (E : Ext) (fmt : Fmt) (wrap : Bool) (L : Lib) (hC : FillContract E fmt L.fill)
    (fs : Fields) (kvs : List (String × Doc))
    (hT : supported fmt wrap (.struct fs) = true) (hk : nodupKeys kvs = true)
    (i : Nat) (tg : Tags) (t : Ty) (d : Doc) (hf : Fields.get? fs i = some (tg, t))
    (hl : lookupD (keyRule fmt tg) kvs = some d)
    (herr : ∃ c, L.fill (kvTy (keyRule fmt) fmt.subs wrap t) d = .err c) :
    (decode fmt false wrap L (.struct fs) (.map kvs)).isOk = false := by
  obtain ⟨c, herr⟩ := herr
  rw [decode_struct E fmt wrap L hC fs kvs hT hk]
  cases hws : fillFields L.fill (kvFields (keyRule fmt) fmt.subs wrap fs) kvs with
  | ok ws =>
    obtain ⟨w, _, hfw⟩ := fillFields_get L.fill (keyRule fmt) fmt.subs wrap kvs fs ws i tg t hws hf
    simp only [fillField, hl, herr] at hfw
    cases hfw
  | _ => rfl

/-! ### defects of the unchanged tree exhibited by the model (outside `supported`) -/

/-- `map[string]Inner` with `Y string \`dials:"why"\`` (`msType`): the Transformer does not recurse into map values,
    the tag is not copied, the library falls back to field-name matching; the key the property demands is `why`. -/
theorem C13_map_of_struct_counterexample :
    view "yaml" (translate (chainOf .yaml false) msType) ≠ kview .yaml false msType := by
  obtain ⟨_, _, _, hc, _⟩ := C13_facts
  rw [hc]
  simp [msType, translate, Mangler.ty, passTy, passFields, Pass.tagCopy, view, kview, kvTy, kvFields]
  intro _; decide

/-- `[]time.Time` (finding D34, repaired in /repo): the second TextUnmarshaler test keeps the Transformer out of the
    element type, so in every format and with or without the wrapper the library is handed the field with its element
    type intact, keyed by the tag rule; the type is in the domain of all theorems above (`supported`), so every
    decoder reads the field like any other list of text leaves and the four agree (C13_agree). -/
theorem C13_slice_of_time (f : Fmt) (wrap : Bool) :
    supported f wrap sliceTimeTy = true ∧
    view f.libTag (translate (chainOf f false) (translate (wrapChain wrap) sliceTimeTy))
      = .struct (.cons "lt" false (.slice (.text .time)) .nil) := by
  have hr : reachTy f sliceTimeTy = true := by cases f <;> decide
  refine ⟨?_, ?_⟩
  · cases f <;> cases wrap <;> decide
  · rw [C13_key_path f wrap sliceTimeTy hr]
    cases f <;> cases wrap <;> simp [kview, sliceTimeTy, kvTy, kvFields] <;> decide

/-! ### durations: the per-leaf hypothesis of `wt` is a theorem for the modelled time package -/

/-- the external duration functions instantiated with the models of time.ParseDuration / Duration.String
    (Model/Duration.lean, tied to the real functions by the C15 correspondence) -/
def durExt (E : Ext) : Ext :=
  { E with
    parseDur := fun s => match Parse.parseDuration s.toList with
      | .ok d => some d
      | _ => none
    durText := fun n => String.ofList (Parse.fmtDuration n) }

/-- For EVERY int64 duration the text written for it (Duration.String) is read back as that duration: with the modelled
    time package the `wt` condition on duration leaves - "a duration whose text the parser reads back" - holds for all
    durations, so the agreement theorems above apply to every duration value written as a string (and, for JSON and
    Cue, as integer nanoseconds). -/
theorem C13_every_duration_text_reads_back (E : Ext) (n : Int) (h1 : -(9223372036854775808 : Int) ≤ n)
    (h2 : n < 9223372036854775808) : (durExt E).parseDur ((durExt E).durText n) = some n := by
  simp only [durExt, String.toList_ofList, Parse.parseDuration_fmtDuration n h1 h2]

/-- ... hence a duration leaf is well-typed data in every format, whatever its value (formats that substitute the
    parsing type - JSON, Cue - need it inside int64, which every time.Duration is). -/
theorem C13_duration_leaf_wt (E : Ext) (fmt : Fmt) (n : Int) (h1 : -(9223372036854775808 : Int) ≤ n)
    (h2 : n < 9223372036854775808) :
    wt (durExt E) fmt (if fmt.subs then .pdur else .dur) (.dur n) = true := by
  have h := C13_every_duration_text_reads_back E n h1 h2
  cases hs : fmt.subs <;> simp [wt, hs, h, inInt64] <;> omega

/-! ### non-vacuity: the hypotheses of the agreement theorems are satisfiable in all four formats at once -/

example : ∀ f, supported f true exTy = true := by intro f; cases f <;> decide
example : ∀ f, wtData exExt f true exTy exVal = true := by intro f; cases f <;> decide
example : ∀ f g, decode f false true (refLib exExt f) exTy (render exExt f true (fun _ => f == .cue) exTy exVal)
    = decode g false true (refLib exExt g) exTy (render exExt g true (fun _ => g == .cue) exTy exVal) :=
  fun f g => C13_agree exExt (fun f => refLib exExt f) (fun f => C13_contract_inhabited exExt f) true
    (fun f _ => f == .cue) exTy exVal (by intro f; cases f <;> decide) (by intro f; cases f <;> decide) f g

end Dials.C13
