/-
C07 — A blocking report returns only after its value is stacked (or rejected).

Property theorems only (helper lemmas and invariants live in Lemmas/RuntimeEnable.lean).
-/
import DialsModel.Model.RuntimeSpec
import DialsModel.Lemmas.RuntimeEnable

namespace Dials.C07
open Dials Dials.Runtime

/-- When the monitor answers blocking reporter `c` with nil, then since it received that report it has
installed exactly one version, whose slot for the reporting source holds the reported value. -/
theorem C07_nil_after_store {W : World} {P : Params} {sl : Slots} {w : List Bool} {s : State}
    (hr : Reachable W P sl w s) (l1 l2 : List Obs) (c : Nat) (h : s.log = l1 ++ Obs.replied c .okNil :: l2) :
    ∃ l2a l2b src v ver skip, l2 = l2a ++ Obs.gotUpd src v (some c) :: l2b ∧
      l2a.all (fun o => !isGotUpd o) = true ∧ l2a.filter isInstall = [Obs.install ver skip] ∧
      (src < ver.cfg.length → ver.cfg[src]? = some v) := by
  exact ((InvC.reachable hr).log.split l1 _ l2 h).1 rfl

/-- When it answers with an error, nothing was installed since it received that report (the view is
unchanged), and the error is the stacking or verification error of that value. -/
theorem C07_err_view_unchanged {W : World} {P : Params} {sl : Slots} {w : List Bool} {s : State}
    (hr : Reachable W P sl w s) (l1 l2 : List Obs) (c : Nat) (r : Res) (hne : r ≠ .okNil)
    (h : s.log = l1 ++ Obs.replied c r :: l2) :
    ∃ l2a l2b src v k, l2 = l2a ++ Obs.gotUpd src v (some c) :: l2b ∧
      l2a.all (fun o => !isGotUpd o) = true ∧ l2a.filter isInstall = [] ∧
      Obs.reject k (some c) ∈ l2a ∧ r = (match k with | .stack => Res.errStack | _ => Res.errVerify) := by
  obtain ⟨l2a, l2b, src, v, k, h1, h2, h3, h4, h5⟩ := ((InvC.reachable hr).log.split l1 _ l2 h).2 hne
  refine ⟨l2a, l2b, src, v, k, h1, h2, h3, h4, ?_⟩
  rw [h5]
  cases k <;> rfl

/-- The reporter (if still waiting) is woken with exactly that answer; a reporter that is waiting is
never answered before the monitor's reply step. -/
theorem C07_reporter_gets_answer (W : World) (s s' : State) (ch : Nat) (old : Slots) (c ctx : Nat)
    (hm : s.mon = .replyOk old c) (hc : getC s.clients c = .waitReply ctx)
    (h : step W s (.runMon ch) = some s') : getC s'.clients c = .returned .okNil ∧ s'.view = s.view := by
  simp only [step, runMon, hm, Option.some.injEq] at h
  subst h
  simp [replyTo, hc, State.ret, getC_setC_self]

/-- A blocked reporter whose context ends returns a context error (before or after submission). -/
theorem C07_ctx (s : State) (c ctx : Nat) (m : Msg)
    (hc : getC s.clients c = .waitReply ctx ∨ getC s.clients c = .sendW m ctx) :
    getC (cancelCtx s ctx).clients c = .returned .ctxErr := by
  have hne : getC s.clients c ≠ .idle := by
    rcases hc with hc | hc <;> rw [hc] <;> exact CSt.noConfusion
  rw [cancelCtx_clients, getC_map_of_ne_idle _ (wake_fst ctx) _ _ hne]
  rcases hc with hc | hc <;> rw [hc] <;> simp [wake]

/-- The monitor is never left blocked on the caller: its reply steps are always enabled, whatever the
caller did meanwhile (the reply channels have capacity one and are written once). -/
theorem C07_monitor_never_blocks (W : World) (s : State) (ch : Nat)
    (hm : (∃ old c, s.mon = .replyOk old c) ∨ (∃ k c, s.mon = .replyErr k c) ∨ (∃ c tok ok noop, s.mon = .enableReply c tok ok noop)) :
    ∃ s', step W s (.runMon ch) = some s' ∧ s'.mon ≠ s.mon := by
  rcases hm with ⟨old, c, hm⟩ | ⟨k, c, hm⟩ | ⟨c, tok, ok, noop, hm⟩
  · exact ⟨_, (MonStep.replyOk old c hm).run, by rw [hm]; nofun⟩
  · exact ⟨_, (MonStep.replyErr k c hm).run, by rw [hm]; nofun⟩
  · exact ⟨_, (MonStep.enableReply c tok ok noop hm).run, by rw [hm]; nofun⟩

/-- F6s: between receiving a report and answering it the monitor performs at most one event submission (the
`.submitErr` step before `.replyErr`); in the code that submission is the non-blocking `submitEvent`, so a full
callback queue cannot keep the answer from the reporter. -/
theorem C07_answer_does_not_wait_for_queue :
    Facts.monitorBlockingSubmits = 0 ∧ Facts.submitEventHasDefault = true := by
  decide

theorem C07_reply_capacity : Facts.capInstalled = 1 ∧ Facts.capResp = 1 ∧ Facts.capWatcher = 0 := by
  decide

/-- After the monitor's nil answer the view is the reported stack unless a later report superseded it:
at the reply step itself the view is the stack of the latest values. -/
theorem C07_view_at_reply {W : World} {P : Params} {sl : Slots} {w : List Bool} {s : State}
    (hr : Reachable W P sl w s) (old : Slots) (c : Nat) (hm : s.mon = .replyOk old c) :
    s.view.cfg = s.slots ∧ 1 ≤ s.view.serial := by
  have hpc := (InvC.reachable hr).pc
  rw [hm] at hpc
  exact ⟨hpc.1, hpc.2.1⟩

end Dials.C07
