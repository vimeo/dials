/-
C15 — Text parsing inverts formatting and never wraps out-of-range numbers.

Integer part: executable models of strconv.ParseInt/ParseUint (base 0) and FormatInt, parseNumber,
the integral-slice parsers.  Collection part: token-level models of splitStringsSlice / splitMap
(`C15_*_tokens`) and a character-level model of strconv.Quote, of text/scanner as the two split functions configure
it and of strconv.Unquote (Model/Scan.lean, Model/QuoteItems.lean, tied to the real token stream by the
correspondence), so that the `C15_*_text_any` theorems go from the printed TEXT to the value for arbitrary byte
strings given as items; the `C15_*_text` theorems for ASCII strings are their special case, and the bare-word
theorems cover what people type.  Durations and bools: models of time.Duration.String / ParseDuration and
strconv.ParseBool (Model/Duration.lean).  Floats and complex numbers rest on strconv (sampled by the correspondence).
-/
import DialsModel.Model.ParseInt
import DialsModel.Model.Split
import DialsModel.Lemmas.Parse
import DialsModel.Lemmas.Scan
import DialsModel.Lemmas.Duration
import DialsModel.Lemmas.ScanWords
import DialsModel.Lemmas.ScanTable
import DialsModel.Lemmas.QuoteItems

namespace Dials.C15
open Dials Dials.Parse

/-- Parsing the canonical text of any in-range integer returns exactly that integer, for every
integer kind (all widths, signed and unsigned). -/
theorem C15_int_roundtrip (k : IntKind) (hk : k ≠ .uintptr) (v : Int) (hv : k.inRange v = true) :
    parseNumber k (formatInt v) = .ok v :=
  have _ := hk  -- the statement excludes uintptr; the proof does not need it
  parseNumber_eq_ok_iff.2 ⟨litOf_formatInt ((inRange_iff k v).1 hv), hv⟩

/-- A result is never wrapped, truncated or saturated: whenever parseNumber succeeds the result is the
mathematical value of the literal and lies in the target type's range. -/
theorem C15_int_sound (k : IntKind) (s : Str) (v : Int) (h : parseNumber k s = .ok v) :
    k.inRange v = true ∧ parseIntLit s = some v :=
  have ⟨hl, hr⟩ := parseNumber_eq_ok_iff.1 h
  ⟨hr, litOf_parseIntLit hl⟩

/-- A literal whose value is outside the target type's range is rejected with an error. -/
theorem C15_int_range (k : IntKind) (s : Str) (v : Int) (hl : parseIntLit s = some v)
    (hr : k.inRange v = false) : ∃ e, parseNumber k s = .err e := by
  refine parseNumber_err_of_not_ok fun w hw => ?_
  obtain ⟨h1, h2⟩ := C15_int_sound k s w hw
  cases hl.symm.trans h2
  rw [hr] at h1
  cases h1

/-- … and so is every text that is not an integer literal. -/
theorem C15_int_syntax (k : IntKind) (s : Str) (hl : parseIntLit s = none) : ∃ e, parseNumber k s = .err e :=
  parseNumber_err_of_not_ok fun w hw => nomatch hl.symm.trans (C15_int_sound k s w hw).2

/-- Integer slices: parsing the printed form (decimal elements joined by commas; the empty string for
the empty slice) returns the slice, for every element kind. -/
theorem C15_int_slice_roundtrip (k : IntKind) (vs : List Int) (hv : ∀ v ∈ vs, k.inRange v = true) :
    parseIntSlice k (joinComma (vs.map formatInt)) = .ok vs := by
  cases vs with
  | nil => rfl
  | cons v vs =>
    have hne : joinComma ((v :: vs).map formatInt) ≠ [] := joinComma_ne_nil _ _ (formatInt_ne_nil v)
    rw [parseIntSlice_nonempty k _ hne, splitComma_join _ (by simp)]
    · exact foldr_sliceStep_format k _ hv
    · intro w hw c hc
      rw [List.mem_map] at hw
      obtain ⟨u, _, rfl⟩ := hw
      exact intChar_ne_comma (formatInt_chars u c hc)

/-- Elements may be surrounded by blanks. -/
theorem C15_int_slice_blanks (k : IntKind) (v : Int) (hv : k.inRange v = true) (pre post : Str)
    (hpre : pre.all isSpaceA = true) (hpost : post.all isSpaceA = true) :
    parseIntSlice k (pre ++ formatInt v ++ post) = .ok [v] := by
  rw [parseIntSlice_nonempty k _ (by simp [formatInt_ne_nil]), splitComma_single]
  · exact sliceStep_elem k v hv _ _ (trimSpace_formatInt_pad v pre post hpre hpost)
  · simp only [List.mem_append]
    rintro c ((hc | hc) | hc)
    · exact isSpaceA_ne_comma hpre c hc
    · exact intChar_ne_comma (formatInt_chars v c hc)
    · exact isSpaceA_ne_comma hpost c hc

/-- The element width is enforced per element: an element outside the element type's range makes the
whole parse fail (never a wrapped element). -/
theorem C15_int_slice_sound (k : IntKind) (s : Str) (vs : List Int) (h : parseIntSlice k s = .ok vs) :
    ∀ v ∈ vs, k.inRange v = true :=
  parseIntSlice_sound h

/-- Go base prefixes and digit separators are accepted with their meaning (examples at the edges of
the ranges, evaluated by the kernel). -/
theorem C15_prefix_examples :
    parseNumber .i8 "0x7f".toList = .ok 127 ∧ parseNumber .i8 "-0x80".toList = .ok (-128) ∧
    (∃ e, parseNumber .i8 "0x80".toList = .err e) ∧ (∃ e, parseNumber .i8 "-129".toList = .err e) ∧
    parseNumber .u16 "0b1111_1111_1111_1111".toList = .ok 65535 ∧ (∃ e, parseNumber .u16 "65536".toList = .err e) ∧
    parseNumber .i64 "-9223372036854775808".toList = .ok (-9223372036854775808) ∧
    (∃ e, parseNumber .i64 "9223372036854775808".toList = .err e) ∧
    parseNumber .u64 "18446744073709551615".toList = .ok 18446744073709551615 ∧
    (∃ e, parseNumber .u64 "18446744073709551616".toList = .err e) ∧
    parseNumber .int "0o17".toList = .ok 15 ∧ parseNumber .int "017".toList = .ok 15 ∧ parseNumber .int "1_000".toList = .ok 1000 ∧
    (∃ e, parseNumber .int "1__0".toList = .err e) ∧ (∃ e, parseNumber .int "_1".toList = .err e) ∧ (∃ e, parseNumber .uint "-1".toList = .err e) := by
  refine ⟨by decide, by decide, ⟨"overflow", by decide⟩, ⟨"overflow", by decide⟩, by decide,
    ⟨"overflow", by decide⟩, by decide, ⟨"number", by decide⟩, by decide, ⟨"number", by decide⟩,
    by decide, by decide, by decide, ⟨"number", by decide⟩, ⟨"number", by decide⟩, ⟨"number", by decide⟩⟩

/-- String slices: the canonical token stream of any list of strings parses back to that list. -/
theorem C15_slice_tokens (zs : List S) : splitSlice (canonSlice zs) true [] = .ok zs := by
  simpa using splitSlice_canon zs []

/-- String sets: the canonical token stream of any duplicate-free list parses back to it; a repeated
element is rejected. -/
theorem C15_set_tokens (zs : List S) (hnd : zs.Nodup) : splitSet (canonSlice zs) true [] = .ok zs := by
  simpa [hnd] using splitSet_canon zs [] List.nodup_nil

theorem C15_set_rejects_duplicates (x : S) (pre post : List S) :
    ∃ e, splitSet (canonSlice (pre ++ x :: post ++ [x])) true [] = .err e :=
  ⟨_, (splitSet_canon _ [] List.nodup_nil).trans <| if_neg fun (hnd : (pre ++ x :: post ++ [x]).Nodup) =>
    (List.nodup_append.1 hnd).2.2 x (by simp) x (by simp) rfl⟩

/-- String maps: the canonical token stream of any list of pairs with distinct, non-empty keys parses
back to it (values may be empty). -/
theorem C15_map_tokens (kvs : List (S × S)) (hk : (kvs.map (·.1)).Nodup) (hne : ∀ p ∈ kvs, p.1 ≠ []) :
    mapStringString (canonMap kvs) = .ok kvs := by
  simpa [mapStringString, st0_nil] using splitMap_unique kvs [] (by simpa using hk) hne

/-- String-to-string-slice maps: every printed pair (non-empty key) comes back, in order. -/
theorem C15_multimap_tokens (kvs : List (S × S)) (hne : ∀ p ∈ kvs, p.1 ≠ []) :
    mapStringStringSlice (canonMap kvs) = .ok kvs := by
  have := splitMap_multi kvs [] hne
  simpa [mapStringStringSlice, st0_nil] using this

/-- finding D13b: the empty string cannot be a map key in the text format -/
theorem C15_empty_key_counterexample (v : S) :
    mapStringString (canonMap [([], v)]) = .err "unexpected colon" := by
  simp [mapStringString, canonMap, splitMapWith]

/-! ### from the printed text: every string (non-ASCII, unprintable, invalid UTF-8) -/

/-- strconv.Quote on ANY byte string, given as its items (ASCII characters, bytes that start no valid UTF-8 sequence,
printable runes written verbatim, unprintable runes written `\uXXXX` / `\UXXXXXXXX`: the split and the printability come
from utf8 / strconv.IsPrint and are compared on every run): the quoted form, followed by anything, is scanned as ONE string
token - the scanner stops at the quote that Quote wrote - and strconv.Unquote gives back exactly the string's bytes. -/
theorem C15_quote_any_string_scans_back (m : Bool) (is : List QItem) (h : ∀ i ∈ is, i.ok) (rest : List Char) :
    ∃ cs, quoteItems is ++ rest = '"' :: cs ∧ scanTok m '"' cs = .tok (.str (some (itemsBytes is))) rest :=
  have ⟨cs, hcs, htok⟩ := scanTok_quoteItems m is h rest
  ⟨cs ++ rest, by rw [hcs]; rfl, htok⟩

/-- String slices of ARBITRARY strings, from the text: what StringSliceFlag.String prints - every element quoted by
strconv.Quote - parses back to exactly those byte strings. -/
theorem C15_slice_text_any (xs : List (List QItem)) (h : ∀ x ∈ xs, ∀ i ∈ x, i.ok) :
    sliceText (printSliceItems xs) = some (.ok (xs.map itemsBytes)) := by
  rw [sliceText_eq, scanText_printSliceItems xs h]
  exact congrArg some (C15_slice_tokens _)

/-- ... sets (elements pairwise different as byte strings) ... -/
theorem C15_set_text_any (xs : List (List QItem)) (h : ∀ x ∈ xs, ∀ i ∈ x, i.ok) (hnd : (xs.map itemsBytes).Nodup) :
    setText (printSliceItems xs) = some (.ok (xs.map itemsBytes)) := by
  rw [setText_eq, scanText_printSliceItems xs h]
  exact congrArg some (C15_set_tokens _ hnd)

/-- ... and string maps / string-to-string-slice maps (non-empty keys; distinct keys for the plain map). -/
theorem C15_map_text_any (kvs : List (List QItem × List QItem)) (h : ∀ p ∈ kvs, (∀ i ∈ p.1, i.ok) ∧ (∀ i ∈ p.2, i.ok))
    (hk : ((kvs.map fun p => (itemsBytes p.1, itemsBytes p.2)).map (·.1)).Nodup)
    (hne : ∀ p ∈ kvs.map (fun p => (itemsBytes p.1, itemsBytes p.2)), p.1 ≠ []) :
    mapText (printMapItems kvs) = some (.ok (kvs.map fun p => (itemsBytes p.1, itemsBytes p.2))) := by
  rw [mapText, scanText_printMapItems kvs h]
  exact congrArg some (C15_map_tokens _ hk hne)

theorem C15_multimap_text_any (kvs : List (List QItem × List QItem)) (h : ∀ p ∈ kvs, (∀ i ∈ p.1, i.ok) ∧ (∀ i ∈ p.2, i.ok))
    (hne : ∀ p ∈ kvs.map (fun p => (itemsBytes p.1, itemsBytes p.2)), p.1 ≠ []) :
    multiMapText (printMapItems kvs) = some (.ok (kvs.map fun p => (itemsBytes p.1, itemsBytes p.2))) := by
  rw [multiMapText, scanText_printMapItems kvs h]
  exact congrArg some (C15_multimap_tokens _ hne)

/-- for an ASCII string the items are its characters -/
theorem C15_quote_items_ascii (s : S) : quoteItems (s.map QItem.ascii) = quote s ∧ itemsBytes (s.map QItem.ascii) = s :=
  quoteItems_ascii s

/-! ### ASCII strings (every control character, quote, backslash, comma, colon): the items are the characters -/

/-- strconv.Unquote after the scanner inverts strconv.Quote: the quoted form of any ASCII string, followed by
anything, is scanned as ONE string token - the scanner stops at the quote that Quote wrote - whose value is the
string. -/
theorem C15_quote_scans_back (m : Bool) (z : S) (hz : z.all isAscii = true) (rest : List Char) :
    ∃ cs, quote z ++ rest = '"' :: cs ∧ scanTok m '"' cs = .tok (.str (some z)) rest := by
  have := C15_quote_any_string_scans_back m _ (ascii_items_ok z hz) rest
  rwa [(quoteItems_ascii z).1, (quoteItems_ascii z).2] at this

/-- The printed text of a string slice is scanned as the canonical token stream. -/
theorem C15_slice_text_scans (zs : List S) (hz : ∀ z ∈ zs, z.all isAscii = true) :
    scanText false (printSlice zs) = some (canonSlice zs) := by
  obtain ⟨xs, hok, hp, rfl⟩ := ascii_slice zs hz
  exact hp ▸ scanText_printSliceItems xs hok

/-- String slices, from the text: what StringSliceFlag.String prints for any list of ASCII strings (any length,
any characters) parses back to exactly that list. -/
theorem C15_slice_text (zs : List S) (hz : ∀ z ∈ zs, z.all isAscii = true) :
    sliceText (printSlice zs) = some (.ok zs) := by
  obtain ⟨xs, hok, hp, rfl⟩ := ascii_slice zs hz
  exact hp ▸ C15_slice_text_any xs hok

/-- String sets, from the text (elements in the order printed, no repetition). -/
theorem C15_set_text (zs : List S) (hz : ∀ z ∈ zs, z.all isAscii = true) (hnd : zs.Nodup) :
    setText (printSlice zs) = some (.ok zs) := by
  obtain ⟨xs, hok, hp, rfl⟩ := ascii_slice zs hz
  exact hp ▸ C15_set_text_any xs hok hnd

/-- The printed text of a map is scanned as the canonical token stream (splitMap's scanner: the colon is a token). -/
theorem C15_map_text_scans (kvs : List (S × S)) (hz : ∀ p ∈ kvs, p.1.all isAscii = true ∧ p.2.all isAscii = true) :
    scanText true (printMap kvs) = some (canonMap kvs) := by
  obtain ⟨qs, hok, hp, rfl⟩ := ascii_map kvs hz
  exact hp ▸ scanText_printMapItems qs hok

/-- String maps, from the text: distinct non-empty ASCII keys, any ASCII values. -/
theorem C15_map_text (kvs : List (S × S)) (hz : ∀ p ∈ kvs, p.1.all isAscii = true ∧ p.2.all isAscii = true)
    (hk : (kvs.map (·.1)).Nodup) (hne : ∀ p ∈ kvs, p.1 ≠ []) :
    mapText (printMap kvs) = some (.ok kvs) := by
  obtain ⟨qs, hok, hp, rfl⟩ := ascii_map kvs hz
  exact hp ▸ C15_map_text_any qs hok hk hne

/-- String-to-string-slice maps, from the text: every printed pair comes back, in order. -/
theorem C15_multimap_text (kvs : List (S × S)) (hz : ∀ p ∈ kvs, p.1.all isAscii = true ∧ p.2.all isAscii = true)
    (hne : ∀ p ∈ kvs, p.1 ≠ []) :
    multiMapText (printMap kvs) = some (.ok kvs) := by
  obtain ⟨qs, hok, hp, rfl⟩ := ascii_map kvs hz
  exact hp ▸ C15_multimap_text_any qs hok hne

/-- The text form is unambiguous: two lists of ASCII strings with the same printed text are the same list (so a set or
slice can never be confused with another one after a round trip through a flag's text). -/
theorem C15_print_slice_injective (zs zs' : List S) (hz : ∀ z ∈ zs, z.all isAscii = true)
    (hz' : ∀ z ∈ zs', z.all isAscii = true) (h : printSlice zs = printSlice zs') : zs = zs' := by
  have h1 := C15_slice_text zs hz
  have h2 := C15_slice_text zs' hz'
  rw [h, h2] at h1
  simpa using h1.symm

/-- ... and the same for the printed pairs of a map (non-empty keys, as printed by the helpers in key order). -/
theorem C15_print_map_injective (kvs kvs' : List (S × S))
    (hz : ∀ p ∈ kvs, p.1.all isAscii = true ∧ p.2.all isAscii = true) (hz' : ∀ p ∈ kvs', p.1.all isAscii = true ∧ p.2.all isAscii = true)
    (hne : ∀ p ∈ kvs, p.1 ≠ []) (hne' : ∀ p ∈ kvs', p.1 ≠ []) (h : printMap kvs = printMap kvs') : kvs = kvs' := by
  have h1 := C15_multimap_text kvs hz hne
  have h2 := C15_multimap_text kvs' hz' hne'
  rw [h, h2] at h1
  simpa using h1.symm

/-- strconv.Quote is injective on ASCII strings. -/
theorem C15_quote_injective (z z' : S) (hz : z.all isAscii = true) (hz' : z'.all isAscii = true) (h : quote z = quote z') : z = z' := by
  have := C15_print_slice_injective [z] [z'] (by simpa using hz) (by simpa using hz') (by simpa [printSlice] using h)
  simpa using this

/-- non-vacuity and the characters the property names: commas, colons, quotes, backslashes, control characters
(incl. NUL, newline, DEL) inside the strings, the empty string, evaluated through the whole text path -/
theorem C15_text_examples :
    sliceText (printSlice ["a,b".toList, "q\"uote".toList, "back\\slash".toList, [], [Char.ofNat 0, '\n', Char.ofNat 127, '\t']])
      = some (.ok ["a,b".toList, "q\"uote".toList, "back\\slash".toList, [], [Char.ofNat 0, '\n', Char.ofNat 127, '\t']]) ∧
    mapText (printMap [("host:port".toList, "a:1,b:2".toList), ("k".toList, [])])
      = some (.ok [("host:port".toList, "a:1,b:2".toList), ("k".toList, [])]) ∧
    printSlice ["a\"b".toList, [Char.ofNat 1]] = "\"a\\\"b\",\"\\x01\"".toList := by
  refine ⟨C15_slice_text _ (by decide), C15_map_text _ (by decide) (by decide) (by decide), by decide⟩

/-- what the scanner model does with text that is NOT a printed form (behaviour the correspondence compares with the
real scanner): a space inside a bare word belongs to the word, a NUL character is an error as soon as it is READ - the
token before it is lost with it -, `\'` is no escape in a double-quoted literal, `\400` scans but does not unquote -/
theorem C15_scanner_examples :
    scanText false "a b, c".toList = some [.word "a b".toList, .comma, .word "c".toList, .eof] ∧
    scanText false [ 'a', ',', Char.ofNat 0 ] = some [.word ['a'], .scanErr] ∧
    scanText false "\"\\'\"".toList = some [.scanErr] ∧
    scanText false "\"\\400\"".toList = some [.str none, .eof] ∧
    scanText true "k:`r\\n`".toList = some [.word ['k'], .colon, .str (some "r\\n".toList), .eof] := by
  refine ⟨by decide, by decide, by decide, by decide, by decide⟩

/-- "café" with a Latin-1 byte (invalid UTF-8), é as a printable rune, U+200B (unprintable, `\u200b`), U+1F600 printable
and U+E0001 (unprintable, `\U000e0001`): what is written, and that it reads back -/
theorem C15_quote_items_examples :
    quoteItems [.ascii 'c', .bad 0xE9, .print 0xE9, .esc 0x200B, .print 0x1F600, .esc 0xE0001]
      = ['"', 'c', '\\', 'x', 'e', '9', Char.ofNat 0xC3, Char.ofNat 0xA9, '\\', 'u', '2', '0', '0', 'b',
         Char.ofNat 0xF0, Char.ofNat 0x9F, Char.ofNat 0x98, Char.ofNat 0x80, '\\', 'U', '0', '0', '0', 'e', '0', '0', '0', '1', '"'] ∧
    itemsBytes [.ascii 'c', .bad 0xE9, .print 0xE9, .esc 0x200B, .print 0x1F600, .esc 0xE0001]
      = ['c', Char.ofNat 0xE9, Char.ofNat 0xC3, Char.ofNat 0xA9, Char.ofNat 0xE2, Char.ofNat 0x80, Char.ofNat 0x8B,
         Char.ofNat 0xF0, Char.ofNat 0x9F, Char.ofNat 0x98, Char.ofNat 0x80, Char.ofNat 0xF3, Char.ofNat 0xA0, Char.ofNat 0x80, Char.ofNat 0x81] := by
  refine ⟨by decide, by decide⟩

/-! ### bare words (beyond the canonical form: what people type - `--tags=a,b,c`, `LIMITS=cpu:2,mem:4`) -/

/-- Which characters a bare word may hold (finite table over ASCII): the printable ones except backslash, comma and the
three quotes - in map mode also except the colon.  The SPACE is one of them: only leading white space is skipped. -/
theorem C15_bare_word_chars :
    ∀ k : Fin 128, identRune false (Char.ofNat k.val) = decide (32 ≤ k.val ∧ k.val ≤ 126 ∧ k.val ∉ [92, 44, 34, 39, 96]) ∧
      identRune true (Char.ofNat k.val) = decide (32 ≤ k.val ∧ k.val ≤ 126 ∧ k.val ∉ [92, 44, 34, 39, 96, 58]) :=
  identRune_table

/-- Any text made of bare words, quoted ASCII strings, commas and (in map mode) colons - no two words adjacent - is
scanned into exactly the corresponding tokens. -/
theorem C15_renderable_scans (m : Bool) (ps : List WPiece) (h : Renderable m ps) :
    scanText m (wrender ps) = some (ps.map WPiece.tok ++ [.eof]) :=
  scanText_wrender m ps h

/-- Comma-separated bare words parse to exactly those words (slices), in order - inner and trailing spaces included. -/
theorem C15_bare_words_text (ws : List S) (hw : ∀ w ∈ ws, BareWord false w) :
    sliceText (joinComma ws) = some (.ok ws) := by
  rw [sliceText_eq, scanText_joinComma ws hw]
  exact congrArg some ((splitSlice_deQuote _ _ _).trans (C15_slice_tokens ws))

/-- ... and to exactly that set when no word repeats. -/
theorem C15_bare_words_set_text (ws : List S) (hw : ∀ w ∈ ws, BareWord false w) (hnd : ws.Nodup) :
    setText (joinComma ws) = some (.ok ws) := by
  rw [setText_eq, scanText_joinComma ws hw]
  exact congrArg some ((splitSet_deQuote _ _ _).trans (C15_set_tokens ws hnd))

/-- `k:v,k2:v2` with bare keys and values (distinct keys) parses to exactly those pairs. -/
theorem C15_bare_map_text (kvs : List (S × S)) (hw : ∀ p ∈ kvs, BareWord true p.1 ∧ BareWord true p.2)
    (hk : (kvs.map (·.1)).Nodup) : mapText (joinPairs kvs) = some (.ok kvs) := by
  rw [mapText, scanText_joinPairs kvs hw]
  exact congrArg some ((splitMapWith_deQuote _ _ _).trans (C15_map_tokens kvs hk fun p hp => (hw p hp).1.1))

theorem C15_bare_words_examples :
    sliceText "a b, c".toList = some (.ok ["a b".toList, "c".toList]) ∧
    sliceText "db1:5432,db2:5432".toList = some (.ok ["db1:5432".toList, "db2:5432".toList]) ∧
    mapText "cpu:2,mem:4".toList = some (.ok [("cpu".toList, "2".toList), ("mem".toList, "4".toList)]) ∧
    mapText "a:b:c".toList = some (.err "unexpected colon") ∧
    sliceText "a,\"b,c\",d".toList = some (.ok ["a".toList, "b,c".toList, "d".toList]) := by
  refine ⟨by decide, by decide, by decide, by decide, by decide⟩

/-! ### parse.String on a slice leaf, end to end on the models (the path of an environment variable or flag value) -/

/-- `parse.String(text, []K)` for every integer kind K: the comma-joined decimal texts of in-range values - scanned by the
scanner model as bare words, split, each cast by parseNumber with K's width - give exactly those values; the empty text
gives the empty slice. -/
theorem C15_parse_string_int_slice (k : IntKind) (hk : k ≠ .uintptr) (vs : List Int) (hv : ∀ v ∈ vs, k.inRange v = true) :
    Tf.parseString Tf.scanTable (String.ofList (joinComma (vs.map formatInt))) (.slice (.basic (.int k) false))
      = .ok (.list (vs.map .i)) := by
  have hwords : ∀ w ∈ vs.map formatInt, BareWord false w := by
    simpa using fun v _ => formatInt_bareWord false v
  have hk' : (k == IntKind.uintptr) = false := by cases k <;> simp_all
  -- every word is cast by parseNumber with K's width
  have hitems := Tf.mapM'_ok_of_forall
    (fun it => (Tf.parseScalar (String.ofList it) (.basic (.int k) false)).bind Tf.derefVal) (fun w => Tf.Val.i ((parseIntLit w).getD 0))
    (vs.map formatInt) (by
      simp only [List.forall_mem_map]
      intro v hvm
      simp [Tf.parseScalar, hk', C15_int_roundtrip k hk v (hv v hvm), Tf.derefVal, Outcome.bind, parseIntLit_formatInt])
  simp only [Tf.parseString, Tf.stringSlice_words _ hwords, Tf.isPlainString, Bool.false_eq_true, if_false, hitems]
  simp [Function.comp_def, parseIntLit_formatInt]

/-- `parse.String(text, []string)`: comma-separated bare words give exactly those strings (the empty text the empty slice). -/
theorem C15_parse_string_str_slice (ws : List S) (hw : ∀ w ∈ ws, BareWord false w) :
    Tf.parseString Tf.scanTable (String.ofList (joinComma ws)) (.slice (.basic .str false))
      = .ok (.list (ws.map fun w => .s (String.ofList w))) := by
  simp [Tf.parseString, Tf.stringSlice_words ws hw, Tf.isPlainString]

/-! ### durations and bools (models of time.Duration.String, time.ParseDuration, strconv.ParseBool; tied by stream 10) -/

/-- Durations: what Duration.String prints for ANY int64 value - sub-microsecond, fractional micro-, milli- and seconds,
hours/minutes/seconds, the extremes - is parsed back by time.ParseDuration to exactly that value. -/
theorem C15_duration_roundtrip (d : Int) (h1 : -(9223372036854775808 : Int) ≤ d) (h2 : d < 9223372036854775808) :
    parseDuration (fmtDuration d) = .ok d :=
  parseDuration_fmtDuration d h1 h2

theorem parseDurationCore_in_range (neg : Bool) (s1 : Str) (d : Int) (h : parseDurationCore neg s1 = .ok d) :
    -(9223372036854775808 : Int) ≤ d ∧ d < 9223372036854775808 := by
  have h63 : two63 = 9223372036854775808 := rfl
  unfold parseDurationCore at h
  by_cases c0 : s1 = ['0']
  · rw [if_pos c0] at h; cases h; omega
  by_cases ce : s1.isEmpty = true
  · rw [if_neg c0, if_pos ce] at h; cases h
  rw [if_neg c0, if_neg ce] at h
  cases hl : parseLoop (s1.length + 1) s1 0 with
  | ok r =>
    have hb := parseLoop_bound _ _ 0 r (by omega) hl
    rw [hl] at h
    cases neg with
    | true => cases h; omega
    | false =>
      by_cases cb : r > two63 - 1
      · simp [cb] at h
      · simp only [cb, if_false, Bool.false_eq_true, DurR.ok.injEq] at h; omega
  | _ => rw [hl] at h; cases h

/-- ... and never wraps: whatever the text, a parsed duration lies within int64 (a total of more than 1<<63
nanoseconds, or of exactly 1<<63 without a minus sign, is an error). -/
theorem C15_duration_in_range (s : Str) (d : Int) (h : parseDuration s = .ok d) :
    -(9223372036854775808 : Int) ≤ d ∧ d < 9223372036854775808 :=
  parseDurationCore_in_range _ _ d h

theorem C15_duration_examples :
    fmtDuration 1500 = "1.5".toList ++ microSign ++ ['s'] ∧ fmtDuration 90000000000 = "1m30s".toList ∧
    fmtDuration 0 = "0s".toList ∧ fmtDuration (-9223372036854775808) = "-2562047h47m16.854775808s".toList ∧
    parseDuration "1h2m3.5s".toList = .ok 3723500000000 ∧ parseDuration "-1.5h".toList = .ok (-5400000000000) ∧
    parseDuration "9223372036854775807ns".toList = .ok 9223372036854775807 ∧
    parseDuration "9223372036854775808ns".toList = .err ∧ parseDuration "-9223372036854775808ns".toList = .ok (-9223372036854775808) ∧
    parseDuration "2562048h".toList = .err ∧ parseDuration "2562047h47m16.854775808s".toList = .err ∧
    parseDuration "1".toList = .err ∧ parseDuration "1d".toList = .err ∧ parseDuration ".s".toList = .err ∧
    parseDuration "0".toList = .ok 0 ∧ parseDuration "1.0000000001s".toList = .ood := by
  refine ⟨by decide, by decide, by decide, by decide, by decide, by decide, by decide, by decide, by decide, by decide,
    by decide, by decide, by decide, by decide, by decide, by decide⟩

/-- Bools: FormatBool's text parses back; ParseBool accepts exactly the twelve spellings. -/
theorem C15_bool_roundtrip (b : Bool) : parseBool (formatBool b) = some b := by cases b <;> decide

/-- ... and nothing else: a text ParseBool accepts is one of the six spellings of its value. -/
theorem C15_bool_spellings (s : Str) (b : Bool) (h : parseBool s = some b) :
    s ∈ (if b then [['1'], ['t'], ['T'], "TRUE".toList, "true".toList, "True".toList]
         else [['0'], ['f'], ['F'], "FALSE".toList, "false".toList, "False".toList]) := by
  unfold parseBool at h
  split at h
  · rename_i hc
    cases h
    simp only [if_true, List.mem_cons, List.not_mem_nil, or_false]
    exact hc
  · split at h
    · rename_i hc
      cases h
      simp only [Bool.false_eq_true, if_false, List.mem_cons, List.not_mem_nil, or_false]
      exact hc
    · cases h

/-- regenerated facts F13 -/
theorem C15_facts : Facts.parseNumberBits = 64 ∧ Facts.parseNumberChecksOverflow = true ∧
    Facts.intSliceElementBits = true ∧ Facts.intSliceEmptyOk = true := by
  exact ⟨rfl, rfl, rfl, rfl⟩

/-- regenerated fact F13s: what the two custom IsIdentRune functions refuse outright (the colon only in splitMap) -/
theorem C15_scanner_facts :
    Facts.sliceIdentDeny = [92, 44, 34, 39, 96, 0] ∧ Facts.mapIdentDeny = [92, 44, 34, 39, 96, 0, 58] ∧
    (∀ m, identRune m '"' = false ∧ identRune m ',' = false ∧ identRune m '\\' = false ∧ identRune m NUL = false) ∧
    identRune true ':' = false ∧ identRune false ':' = true := by
  refine ⟨rfl, rfl, ?_, by decide, by decide⟩
  intro m
  cases m <;> decide

end Dials.C15
