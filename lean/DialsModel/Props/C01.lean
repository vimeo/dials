/-
C01 — Layer precedence: the last source that sets a leaf wins, else the default.
-/
import DialsModel.Model.OverlaySpec
import DialsModel.Lemmas.Overlay

namespace Dials.C01
open Dials Dials.Overlay

/-- For every config struct type in the model's universe (scalars/arrays/strings/durations,
text-unmarshalable types, slices, maps, user-declared pointers, nested / pointer structs, skipped fields
in any position), every well-typed default and every list of well-typed layers, `compose` succeeds
and every configuration leaf holds the value from the last layer that set it, or else the default. -/
theorem C01_precedence (fs : Fields) (d : Val) (hd : d.HasTy (.struct fs) = true)
    (ls : List Val) (hls : ∀ l ∈ ls, IsLayer fs l = true) :
    ∃ r, compose d ls = .ok r ∧ r.HasTy (.struct fs) = true ∧
      ∀ p, LeafPath (.struct fs) p = true →
        readB (.struct fs) r p =
          (match ls.reverse.findSome? (fun l => readO (.struct fs) l p) with
           | some x => some x
           | none => readB (.struct fs) d p) := by
  refine compose_ind fs (Q := fun d ls r => ∀ p, LeafPath (.struct fs) p = true → readB (.struct fs) r p =
    (match ls.reverse.findSome? (fun l => readO (.struct fs) l p) with
     | some x => some x
     | none => readB (.struct fs) d p)) (fun _ _ _ => rfl) ?_ ls d hd hls
  intro d l d' ls r hm hq p hp
  rw [hq p hp, hm.2.1 p hp, List.reverse_cons, List.findSome?_append]
  cases ls.reverse.findSome? (fun l => readO (.struct fs) l p) with
  | some x => rfl
  | none => simp only [Option.none_or, List.findSome?]; cases readO (.struct fs) l p <;> rfl

/-- Skipped fields (unexported, `dials:"-"`, channels, functions) keep their default. -/
theorem C01_skipped_fixed (fs : Fields) (d : Val) (hd : d.HasTy (.struct fs) = true)
    (ls : List Val) (hls : ∀ l ∈ ls, IsLayer fs l = true) (r : Val) (hr : compose d ls = .ok r)
    (p : List Nat) (hp : SkippedPath (.struct fs) p = true) :
    readB (.struct fs) r p = readB (.struct fs) d p := by
  obtain ⟨r', h1, _, h⟩ := compose_ind fs (Q := fun d _ r => readB (.struct fs) r p = readB (.struct fs) d p)
    (fun _ => rfl) (fun _ _ _ _ _ hm hq => hq.trans (hm.2.2.1 p hp)) ls d hd hls
  cases h1.symm.trans hr
  exact h

/-- A pointer-to-struct is non-nil in the result exactly when it is non-nil in the default or some
layer has it present. -/
theorem C01_struct_ptr_nil_iff (fs : Fields) (d : Val) (hd : d.HasTy (.struct fs) = true)
    (ls : List Val) (hls : ∀ l ∈ ls, IsLayer fs l = true) (r : Val) (hr : compose d ls = .ok r)
    (p : List Nat) (hp : StructPtrPath (.struct fs) p = true) :
    presentB (.struct fs) r p = (presentB (.struct fs) d p || ls.any (fun l => presentO (.struct fs) l p)) := by
  obtain ⟨r', h1, _, h⟩ := compose_ind fs
    (Q := fun d ls r => presentB (.struct fs) r p = (presentB (.struct fs) d p || ls.any (fun l => presentO (.struct fs) l p)))
    (fun _ => (Bool.or_false _).symm)
    (fun _ _ _ _ _ hm hq => by rw [hq, hm.2.2.2 p hp, List.any_cons, Bool.or_assoc]) ls d hd hls
  cases h1.symm.trans hr
  exact h

/-- A source that sets nothing changes nothing. -/
theorem C01_unset_noop (fs : Fields) (b : Val) (hb : b.HasTy (.struct fs) = true) :
    overlayLayer b (zero (ptrify (.struct fs))) = .ok b := by
  obtain ⟨bvs, rfl, hbvs⟩ := hasTy_struct hb
  simp [ptrify, zero, overlayLayer, overlayStruct_zeros_noop fs bvs hbvs]

/-- The two omission rules (Pointerify's and overlayStruct's) stay aligned: the pointerified struct
has exactly one field per kept base field. -/
theorem C01_alignment (fs : Fields) (i : Nat) (k : FieldKind) (t : Ty) (h : fs.get? i = some (k, t))
    (hk : skippedField k t = false) :
    ∃ t', ptrifyField t = some t' ∧ (ptrifyFields fs).get? (ovIndex fs i) = some (k, t') := by
  exact alignment fs i k t h hk

/-- regenerated facts F9/F10 the model is parameterised by -/
theorem C01_facts : Facts.omitUnexported = true ∧ Facts.omitDash = true ∧ Facts.ptrifyDropsChanFunc = true ∧
    Facts.overlayUsesOmitField = true ∧ Facts.overlaySkipsChanFunc = true ∧ Facts.overlayReplacesNonStructPtr = true := by
  decide

end Dials.C01
