/-
C10 — Type manglers are lossless: translate, fill, reverse restores the original.

Local laws of each mangler (what `unmangle` returns for every filling of the fields `mangle`
produced) and the Transformer's positional bookkeeping.  Values are untyped (reflect's
assignability panics are observed on the implementation, C16); UnmarshalText, float/complex/
duration parsing and text/scanner are external.
-/
import DialsModel.Model.TfSpec
import DialsModel.Lemmas.Tf
import DialsModel.Lemmas.TfChain
import DialsModel.Lemmas.TfCanon

namespace Dials.C10
open Dials Dials.Tf

/-- ReverseTranslate's running offset routes every group of output values back to the field that
produced it: splitting the concatenation by the recorded counts gives back the groups. -/
theorem C10_split_flatten {α : Type} (groups : List (List α)) :
    splitCounts (groups.map List.length) groups.flatten = groups := by
  induction groups with
  | nil => rfl
  | cons g gs ih => simp [splitCounts, List.take_left', List.drop_left', ih]

/-- The identity manglers (tag copy, tag reformat, type substitution on untyped values) hand the value
through unchanged, whatever it is. -/
theorem C10_identity_manglers (h : Hdr) (t : Ty) (f : FT) (v : Val) (src new tag : String)
    (dec : List Char → Option (List (List Char))) (enc : CaseConv.Scheme) :
    (tagCopyMangler src new).unmangle h t [(f, v)] = .ok v ∧
    (tagReformatMangler tag dec enc).unmangle h t [(f, v)] = .ok v ∧
    durSubMangler.unmangle h t [(f, v)] = .ok v :=
  ⟨rfl, rfl, rfl⟩

/-- … and each of them produces exactly one output field of the same (or substituted) type with the
same name. -/
theorem C10_identity_manglers_shape (h : Hdr) (t : Ty) (src new : String) :
    (∃ h', (tagCopyMangler src new).mangle h t = .ok [(h', t)] ∧ h'.name = h.name ∧ h'.anon = h.anon) ∧
    durSubMangler.mangle h t = .ok [(h, subType t)] :=
  ⟨tagCopy_mangle src new h t, rfl⟩

/-- set → slice: a set field becomes a slice of its key type; a nil slice reverses to a nil set, a
filled slice to the set of its elements; every other field is untouched. -/
theorem C10_set_slice (h : Hdr) (k : Ty) (f : FT) (vs : List Val) :
    setSliceMangler.mangle h (.set k) = .ok [(h, .slice k)] ∧
    setSliceMangler.unmangle h (.set k) [(f, .nilv)] = .ok .nilv ∧
    setSliceMangler.unmangle h (.set k) [(f, .list vs)] = .ok (.setv vs) :=
  ⟨rfl, rfl, rfl⟩

theorem C10_set_slice_other (h : Hdr) (t : Ty) (hns : ∀ k, t ≠ .set k) (f : FT) (v : Val) :
    setSliceMangler.mangle h t = .ok [(h, t)] ∧ setSliceMangler.unmangle h t [(f, v)] = .ok v := by
  cases t <;> first | exact ⟨rfl, rfl⟩ | exact absurd rfl (hns _)

/-- slice / map / set types: parse.String returns these as they are, every other type behind a pointer -/
def isColl : Ty → Bool
  | .slice _ => true
  | .map _ _ => true
  | .set _ => true
  | _ => false

/-- string casting: every field becomes a *string; an unset string reverses to an unset value, a set
one to exactly what parse.String makes of its text for the field's type: the pointee type for a
pointerified scalar, the collection type itself for a slice / map / set field, and the boxed
collection for a pointer-to-collection field. -/
theorem C10_string_cast (parse : String → Ty → Outcome Val) (h : Hdr) (t : Ty) (f : FT) (str : String) :
    (stringCastMangler parse).mangle h t = .ok [(h, strPtrTy)] ∧
    (stringCastMangler parse).unmangle h t [(f, .nilv)] = .ok .nilv ∧
    (isColl t = false → (stringCastMangler parse).unmangle h (.ptr t) [(f, .ptr (.s str))] = parse str t) ∧
    (isColl t = true → (stringCastMangler parse).unmangle h t [(f, .ptr (.s str))] = parse str t) ∧
    (isColl t = true → ∀ v, parse str t = .ok v →
      (stringCastMangler parse).unmangle h (.ptr t) [(f, .ptr (.s str))] = .ok (.ptr v)) := by
  have hb : scBoxed (.ptr t) = isColl t := by cases t <;> rfl
  have hc : isColl t = true → hasElemTy t = true ∧ scCastTo t = t ∧ scBoxed t = false := by
    cases t <;> simp [isColl, scCastTo, scBoxed]
  refine ⟨rfl, rfl, fun hf => ?_, fun ht => ?_, fun ht v hv => ?_⟩
  · rw [stringCast_unmangle_text parse h rfl, hb, hf, scCastTo]
    cases parse str t <;> rfl
  · obtain ⟨h1, h2, h3⟩ := hc ht
    rw [stringCast_unmangle_text parse h h1, h2, h3]
    cases parse str t <;> rfl
  · rw [stringCast_unmangle_text parse h rfl, hb, ht, scCastTo, hv]
    rfl

/-- text-unmarshaler mangler: only text-unmarshalable fields change (to *string); unset stays unset. -/
theorem C10_text_unmarshaler (h : Hdr) (t : Ty) (f : FT) (v : Val) :
    (isTU t = false → textUnmarshalerMangler.mangle h t = .ok [(h, t)] ∧ textUnmarshalerMangler.unmangle h t [(f, v)] = .ok v) ∧
    (isTU t = true → textUnmarshalerMangler.mangle h t = .ok [(h, strPtrTy)] ∧
      textUnmarshalerMangler.unmangle h t [(f, .nilv)] = .ok .nilv) := by
  constructor
  · intro ht; simp [textUnmarshalerMangler, ht]
  · intro ht; simp [textUnmarshalerMangler, ht]

/-- flatten, shape: the number of flattened fields of a (nil-able) field is the number of leaves of its
type, whenever flattening succeeds. -/
theorem C10_flatten_count (cfg : FlattenCfg) (fuel : Nat) (h : Hdr) (t : Ty) (hf : tySize t < fuel)
    (outs : List FT) (hm : flattenMangle cfg fuel h t = .ok outs) : outs.length = leafCount fuel t := by
  rw [flattenMangle_length cfg fuel h t outs hm, leafCount_eq_leafN fuel t hf]

/-- flatten, lossless — the ORIGINAL full-strength statement (no pointer hypothesis): populating from
any filling of the flattened leaves succeeds, consumes exactly the leaves of the type, and yields a
value whose leaves — read back in flatten order — are exactly the filling; intermediate structs are
allocated only when one of their leaves is set (otherwise the whole value is unset).

History: before the repair of P02 this was FALSE for the model (and the code): `populate` /
populateStruct set a `*struct` on a struct held by value (`reflect.Set` panic) as soon as one of its
leaves was set, and the statement was proved only under `structsBehindPtr t = true`
(`C10_flatten_lossless_partial`).  Since the repair a struct held by value receives the rebuilt struct
itself, and the statement holds for EVERY type; the two former counterexample inputs now evaluate to
rebuilt values (`C10_flatten_lossless_bare_rebuilt`, `C10_flatten_lossless_nested_rebuilt`). -/
theorem C10_flatten_lossless (fuel : Nat) (t : Ty) (hf : tySize t < fuel) (vals rest : List Val)
    (hl : vals.length = leafCount fuel t) :
    ∃ v, populate fuel t (vals ++ rest) = .ok (v, rest, vals.any (fun x => !x.isNil)) ∧
      flatLeaves fuel t v = vals ∧
      ((∀ x ∈ vals, x = Val.nilv) → (stripPtrs t).isStructTy = true → v = .nilv) := by
  rw [leafCount_eq_leafN fuel t hf] at hl
  obtain ⟨v, hp, hfl, hv⟩ := populate_spec fuel t hf vals rest hl
  exact ⟨v, hp, hfl, fun hn _ => hv hn⟩

/-- former counterexample (a), now the truth for that input: a struct NOT behind a pointer with its child
set is rebuilt as the struct itself (before the repair of P02: `.panic "reflect.Set: *struct into struct"`),
and its leaves read back as the filling -/
theorem C10_flatten_lossless_bare_rebuilt :
    let t : Ty := .struct (.cons "A" [] false (.ptr (.basic .bool false)) .nil)
    tySize t < 6 ∧ [Val.ptr (.b true)].length = leafCount 6 t ∧
      populate 6 t ([Val.ptr (.b true)] ++ []) = .ok (.struct [.ptr (.b true)], [], true) ∧
      flatLeaves 6 t (.struct [.ptr (.b true)]) = [Val.ptr (.b true)] := by
  refine ⟨by decide, by decide, ?_, ?_⟩
  · simp [populate, populate.fields, stripPtrs, ptrDepth, Fields.toList, Val.isNil, wrapPtrs]
  · simp [flatLeaves, flatLeaves.go, flatLeaves.strip, stripPtrs, ptrDepth, Fields.toList]

/-- former counterexample (b), now the truth for that input: a struct VALUE field nested inside a
pointer-to-struct, child set: the inner struct is rebuilt by value inside the allocated outer struct -/
theorem C10_flatten_lossless_nested_rebuilt :
    let t : Ty := .ptr (.struct (.cons "A" [] false (.ptr (.basic .bool false))
      (.cons "N" [] false (.struct (.cons "X" [] false (.ptr (.basic .bool false)) .nil)) .nil)))
    tySize t < 13 ∧ [Val.nilv, Val.ptr (.b true)].length = leafCount 13 t ∧
      populate 13 t ([Val.nilv, Val.ptr (.b true)] ++ []) =
        .ok (.ptr (.struct [.nilv, .struct [.ptr (.b true)]]), [], true) ∧
      flatLeaves 13 t (.ptr (.struct [.nilv, .struct [.ptr (.b true)]])) = [Val.nilv, Val.ptr (.b true)] := by
  refine ⟨by decide, by decide, ?_, ?_⟩
  · simp [populate, populate.fields, stripPtrs, ptrDepth, Fields.toList, Val.isNil, wrapPtrs]
  · simp [flatLeaves, flatLeaves.go, flatLeaves.strip, stripPtrs, ptrDepth, Fields.toList]

/-- the former partial statement (extra hypothesis `structsBehindPtr t = true`: every struct behind a
pointer — what Pointerify guarantees) is now a special case of `C10_flatten_lossless`; kept under its
name for the users of the old statement -/
theorem C10_flatten_lossless_partial (fuel : Nat) (t : Ty) (hf : tySize t < fuel) (vals rest : List Val)
    (hl : vals.length = leafCount fuel t) (_hptr : structsBehindPtr t = true) :
    ∃ v, populate fuel t (vals ++ rest) = .ok (v, rest, vals.any (fun x => !x.isNil)) ∧
      flatLeaves fuel t v = vals ∧
      ((∀ x ∈ vals, x = Val.nilv) → (stripPtrs t).isStructTy = true → v = .nilv) :=
  C10_flatten_lossless fuel t hf vals rest hl

/-- flatten, lossless on the all-unset filling, for EVERY type (no pointer hypothesis, struct or not):
populate succeeds, consumes exactly the leaves, reports "no child set", allocates nothing, and the
unset value reads back as the all-unset leaves. -/
theorem C10_flatten_lossless_allnil (fuel : Nat) (t : Ty) (hf : tySize t < fuel) (vals rest : List Val)
    (hl : vals.length = leafCount fuel t) (hnil : ∀ x ∈ vals, x = Val.nilv) :
    populate fuel t (vals ++ rest) = .ok (.nilv, rest, false) ∧ flatLeaves fuel t .nilv = vals := by
  rw [leafCount_eq_leafN fuel t hf] at hl
  exact populate_unset hf rest hl hnil

/-- An empty filling reverses to unset for each mangler, so a source that found nothing can never
clobber lower layers: alias, set→slice, string cast, text unmarshaler, the identity manglers, and
flatten (with enough fuel). -/
theorem C10_empty_unset_local (tags : List String) (parse : String → Ty → Outcome Val) (src new tag : String)
    (dec : List Char → Option (List (List Char))) (enc : CaseConv.Scheme) :
    NilPreserving (aliasMangler tags) (fun _ => True) ∧
    NilPreserving setSliceMangler (fun _ => True) ∧
    NilPreserving (stringCastMangler parse) (fun _ => True) ∧
    NilPreserving textUnmarshalerMangler (fun _ => True) ∧
    NilPreserving (tagCopyMangler src new) (fun _ => True) ∧
    NilPreserving (tagReformatMangler tag dec enc) (fun _ => True) ∧
    NilPreserving durSubMangler (fun _ => True) := by
  exact ⟨np_alias tags, np_setSlice, np_stringCast parse, np_textUnmarshaler, np_tagCopy src new,
    np_tagReformat tag dec enc, np_durSub⟩

theorem C10_empty_unset_flatten (cfg : FlattenCfg) (fuel : Nat) :
    NilPreserving (flattenMangler cfg fuel) (fun f => tySize f.2 < fuel ∧ (stripPtrs f.2).isStructTy = true ∨
      (tySize f.2 < fuel ∧ (stripPtrs f.2).isStructTy = false)) := by
  intro f hf
  apply np_flatten cfg fuel f
  rcases hf with hf | hf <;> exact hf.1

/-- Chains without recursion into nested struct types (every mangler after a flatten sees only
leaves): if every mangler of the chain is nil-preserving on the fields it meets, the all-unset
translated value reverses to the all-unset original. -/
theorem C10_empty_unset_chain (fuel : Nat) (ms : List Mangler) (fs tfs : List FT)
    (hnr : ∀ m ∈ ms, m.recurse = false ∨ ∀ l ∈ (match layers fuel ms fs with | .ok ls => ls | _ => []),
        ∀ f ∈ l.2, ∀ outs, l.1.mangle f.1 f.2 = .ok outs → ∀ o ∈ outs, structish o.2 = none)
    (hnp : ∀ m ∈ ms, NilPreserving m (fun _ => True))
    (ht : translate fuel ms fs = .ok tfs) :
    reverse fuel ms fs (nils tfs.length) = .ok (nils fs.length) := by
  obtain ⟨ls, hls, hmem, hrev⟩ := chain_nils fuel ms fs tfs ht
  rw [hls] at hnr
  exact hrev fun l hl => ⟨(hnr l.1 (hmem l hl)).imp id fun h => h l hl, hnp l.1 (hmem l hl)⟩

/-- the special case of `C10_empty_unset_chain` for chains of non-recursing manglers -/
theorem C10_empty_unset_chain' (fuel : Nat) (ms : List Mangler) (fs tfs : List FT)
    (hnr : ∀ m ∈ ms, m.recurse = false)
    (hnp : ∀ m ∈ ms, NilPreserving m (fun _ => True))
    (ht : translate fuel ms fs = .ok tfs) :
    reverse fuel ms fs (nils tfs.length) = .ok (nils fs.length) :=
  C10_empty_unset_chain fuel ms fs tfs (fun m hm => Or.inl (hnr m hm)) hnp ht

/-! ## Chain-level round trip (translate, fill, reverse) for arbitrary values

Vocabulary (Lemmas/TfChain.lean): `Lossless m Dom Good` — a specification-level encoder `enc` for the
mangler `m` (the direction opposite to `unmangle`) with its laws on the fields `Dom` and values
`Good`; `encLayer` — the forward encoder of one layer (mirror image of `unmangleLayer`, recursing into
struct-typed fields behind pointer / slice / array exactly where `mangleLayer` does); `encChain` —
`encLayer` along the layers of a chain; `ChainGood` — the values are good for every layer they pass;
`All2 R fs vs` — `R` holds position by position; `HG P` — the local condition `P` holds at a field and,
hereditarily, at every field of the struct values below it (`WS = HG (fun _ _ _ => True)`: plain
well-shapedness). -/

/-- LAYER THEOREM (full: with recursion into nested struct types; Tier 2).  For a lossless mangler, a
field list on which `mangleLayer` succeeds, and good values: reverse-translating the encoded values
gives back the values, and the encoding fills exactly the translated fields. -/
theorem C10_layer_roundtrip {m : Mangler} {Dom : FT → Prop} {Good : FT → Val → Prop} (L : Lossless m Dom Good)
    (fuel : Nat) (fs fs' : List FT) (vs : List Val) (hm : mangleLayer fuel m fs = .ok fs')
    (hg : All2 (fun f v => Dom f ∧ Good f v) fs vs) :
    unmangleLayer fuel m fs (encLayer m L.enc fuel fs vs) = .ok vs ∧
      (encLayer m L.enc fuel fs vs).length = fs'.length :=
  (unmangleLayer_encLayer L fuel).1 fs fs' vs hm hg

/-- CHAIN THEOREM (general: any chain of lossless manglers, recursing or not).  If `translate`
succeeds and the values are good for every layer they pass, `reverse` of the encoded values is the
original value list, and the encoding fills exactly the translated fields. -/
theorem C10_chain_roundtrip (fuel : Nat) (ls : List LM) (fs tfs : List FT) (vs : List Val)
    (ht : translate fuel (ls.map (·.m)) fs = .ok tfs) (hg : ChainGood fuel ls fs vs) :
    reverse fuel (ls.map (·.m)) fs (encChain fuel ls fs vs) = .ok vs ∧
      (encChain fuel ls fs vs).length = tfs.length :=
  chain_roundtrip fuel ls fs tfs vs ht hg

/-- The library's manglers are lossless (anonymous-flatten: see `C10_lossless_anon`), each on the
stated fields / values:
* alias — `HG (aliasP tags)`: well-shaped values; an aliased field is not of bare struct / array-of-struct type;
* flatten — fields with `tySize < fuel` (nothing else since the repair of P02: structs held by value are
  restored like structs behind pointers); the values `populate` can build;
* set → slice — `HG setP`: set-typed fields hold nil or a set (no struct-keyed sets);
* Duration substitution, tag copy, tag reformat — `WS`: well-shaped values;
* string cast — fields whose type has an element type (`hasElemTy`: pointer / slice / array / map / set; the
  real code calls `Type.Elem()`); `scGood parse fmt`: unset, or what `parse` makes of the formatted text;
* text unmarshaler — `HG tuP`: text-unmarshalable fields hold nil or their text. -/
theorem C10_lossless_library (tags : List String) (cfg : FlattenCfg) (fuelF : Nat)
    (parse : String → Ty → Outcome Val) (fmt : Ty → Val → String) (src new tag : String)
    (dec : List Char → Option (List (List Char))) (enc : CaseConv.Scheme) :
    Nonempty (Lossless (aliasMangler tags) (fun _ => True) (HG (aliasP tags))) ∧
    Nonempty (Lossless (flattenMangler cfg fuelF) (fun f => tySize f.2 < fuelF) (flattenGood fuelF)) ∧
    Nonempty (Lossless setSliceMangler (fun _ => True) (HG setP)) ∧
    Nonempty (Lossless durSubMangler (fun _ => True) WS) ∧
    Nonempty (Lossless (stringCastMangler parse) (fun f => hasElemTy f.2 = true) (scGood parse fmt)) ∧
    Nonempty (Lossless textUnmarshalerMangler (fun _ => True) (HG tuP)) ∧
    Nonempty (Lossless (tagCopyMangler src new) (fun _ => True) WS) ∧
    Nonempty (Lossless (tagReformatMangler tag dec enc) (fun _ => True) WS) :=
  ⟨⟨losslessAlias tags⟩, ⟨losslessFlatten cfg fuelF⟩, ⟨losslessSetSlice⟩, ⟨losslessDurSub⟩,
    ⟨losslessStringCast parse fmt⟩, ⟨losslessTextUnmarshaler⟩, ⟨losslessTagCopy src new⟩,
    ⟨losslessTagReformat tag dec enc⟩⟩

/-- JSON / YAML / TOML decoder chain `[Duration substitution, tag copy]` (both recurse into nested
structs): every well-shaped value list round-trips, and the translated values are the values
themselves. -/
theorem C10_roundtrip_decoder_chain (src new : String) (fuel : Nat) (fs tfs : List FT) (vs : List Val)
    (ht : translate fuel [durSubMangler, tagCopyMangler src new] fs = .ok tfs) (hv : All2 WS fs vs) :
    reverse fuel [durSubMangler, tagCopyMangler src new] fs vs = .ok vs ∧ vs.length = tfs.length := by
  obtain ⟨hg, he⟩ := decoderChain_good src new ht hv
  have h := C10_chain_roundtrip fuel [lmDurSub, lmTagCopy src new] fs tfs vs ht hg
  rwa [he] at h

/-- … with set → slice in front: every well-shaped value list whose set-typed fields hold nil or a set
round-trips; the translated values are the set → slice encoding (sets become lists). -/
theorem C10_roundtrip_decoder_chain_set (src new : String) (fuel : Nat) (fs tfs : List FT) (vs : List Val)
    (ht : translate fuel [setSliceMangler, durSubMangler, tagCopyMangler src new] fs = .ok tfs)
    (hv : All2 (HG setP) fs vs) :
    ∃ tvals, tvals = encLayer setSliceMangler losslessSetSlice.enc fuel fs vs ∧ tvals.length = tfs.length ∧
      reverse fuel [setSliceMangler, durSubMangler, tagCopyMangler src new] fs tvals = .ok vs := by
  obtain ⟨fs1, h1, ht1⟩ := translate_cons_ok ht
  obtain ⟨hg, he⟩ := decoderChain_good src new ht1
    ((encLayer_WS lmSetSlice.L rfl fuel).1 fs fs1 vs h1 hv.and_true)
  have h := C10_chain_roundtrip fuel [lmSetSlice, lmDurSub, lmTagCopy src new] fs tfs vs ht
    (.cons h1 hv.and_true rfl hg)
  rw [encChain_cons lmSetSlice h1 rfl, he] at h
  exact ⟨_, rfl, h.2, h.1⟩

/-- Flag-source chain `[alias (recursing), flatten]`.  `fs1` are the fields after the alias layer, `w1`
the alias encoding of the values (an aliased field's value is followed by nil for its alias copy, at
every depth).  Every value list that is good for alias and whose alias encoding is one that flatten can
restore has an encoding of the translated fields — the flattened leaves of `w1` — that reverses to it.
(`C10_roundtrip_flag_chain_canon` below derives the second condition from a condition on `vs` alone.) -/
theorem C10_roundtrip_flag_chain (tags : List String) (cfg : FlattenCfg) (fuelF fuel : Nat)
    (fs fs1 tfs : List FT) (vs w1 : List Val)
    (h1 : mangleLayer fuel (aliasMangler tags) fs = .ok fs1)
    (h2 : mangleLayer fuel (flattenMangler cfg fuelF) fs1 = .ok tfs)
    (hv : All2 (HG (aliasP tags)) fs vs)
    (e1 : w1 = encLayer (aliasMangler tags) (losslessAlias tags).enc fuel fs vs)
    (hd : ∀ f ∈ fs1, tySize f.2 < fuelF)
    (hc : All2 (flattenGood fuelF) fs1 w1) :
    ∃ tvals, tvals = ((fs1.zip w1).map fun p => flatLeaves fuelF p.1.2 p.2).flatten ∧
      tvals.length = tfs.length ∧
      reverse fuel [aliasMangler tags, flattenMangler cfg fuelF] fs tvals = .ok vs := by
  have hg := All2.and_dom hd hc
  have e2 := encLayer_noRecurse (losslessFlatten cfg fuelF) rfl fuel fs1 tfs w1 h2 hg
  have h := C10_chain_roundtrip fuel [lmAlias tags, lmFlatten cfg fuelF] fs tfs vs
    (translate_cons h1 (translate_cons h2 rfl)) (.cons h1 hv.and_true e1.symm (.single hg))
  rw [encChain_cons (lmAlias tags) h1 e1.symm, encChain_cons (lmFlatten cfg fuelF) h2 e2, encChain_nil] at h
  exact ⟨_, rfl, h.2, h.1⟩

/-- Flag-source chain, with hypotheses on the ORIGINAL values only: every value list that is good for
alias (well shaped; aliased fields not of bare struct / array-of-struct type) and flatten-canonical
(`Canon`: every struct value sits behind exactly the pointers of its type, has one canonical value per
field, and is allocated only if one of its fields is set) has an encoding of the translated fields that
reverses to it.  `hd` is a condition on the translated field TYPES only: flatten's fuel (the former
second conjunct "every struct behind a pointer" is gone since the repair of P02). -/
theorem C10_roundtrip_flag_chain_canon (tags : List String) (cfg : FlattenCfg) (fuelF fuel : Nat)
    (fs fs1 tfs : List FT) (vs : List Val)
    (h1 : mangleLayer fuel (aliasMangler tags) fs = .ok fs1)
    (h2 : mangleLayer fuel (flattenMangler cfg fuelF) fs1 = .ok tfs)
    (hv : All2 (HG (aliasP tags)) fs vs) (hc : All2 Canon fs vs)
    (hd : ∀ f ∈ fs1, tySize f.2 < fuelF) :
    ∃ tvals, tvals.length = tfs.length ∧
      reverse fuel [aliasMangler tags, flattenMangler cfg fuelF] fs tvals = .ok vs := by
  obtain ⟨tvals, _, hl, hr⟩ := C10_roundtrip_flag_chain tags cfg fuelF fuel fs fs1 tfs vs _ h1 h2 hv rfl hd
    (alias_flattenGood tags fuelF fuel fs fs1 vs h1 hv hc hd)
  exact ⟨tvals, hl, hr⟩

/-- flatten alone: canonical values are exactly recoverable (the explicit form of `flattenGood`), for every
type (the hypothesis "every struct behind a pointer" is gone since the repair of P02; for a struct held by
value `Canon` takes `nilv` as the one representation of "nothing set") -/
theorem C10_flatten_canon (fuel : Nat) (f : FT) (v : Val) (hsz : tySize f.2 < fuel) (hc : Canon f v) :
    populate fuel f.2 (flatLeaves fuel f.2 v) = .ok (v, [], !v.isNil) ∧
      (flatLeaves fuel f.2 v).length = leafCount fuel f.2 := by
  obtain ⟨hp, hl⟩ := populate_canon fuel f.2 hsz v [] hc
  rw [List.append_nil] at hp
  exact ⟨hp, by rw [hl, leafCount_eq_leafN fuel f.2 hsz]⟩

/-- Env-source chain `[alias, flatten, tag reformat, tag copy, string cast]`.  `fs1 … fs4` are the fields
after the first four layers, `w1` the alias encoding of the values, `w2` the flattened leaves of `w1`;
tag reformat and tag copy leave the values as they are (at every depth).  Every value list that is
good for alias, whose alias encoding flatten can restore, whose leaves are well shaped (slices of
structs are leaves that reformat / copy recurse into) and faithfully formatted by `fmt` for `parse`
(the formatter hypothesis `hs`), every leaf type having an element type (`hel`: pointer / slice / array /
map / set — what Pointerify produces; string cast calls `Type.Elem()`), has an encoding of the translated fields — the formatted texts of the
leaves — that reverses to it. -/
theorem C10_roundtrip_env_chain (tags : List String) (cfg : FlattenCfg) (fuelF fuel : Nat)
    (tag : String) (dec : List Char → Option (List (List Char))) (enc : CaseConv.Scheme) (src new : String)
    (parse : String → Ty → Outcome Val) (fmt : Ty → Val → String)
    (fs fs1 fs2 fs3 fs4 tfs : List FT) (vs w1 w2 : List Val)
    (h1 : mangleLayer fuel (aliasMangler tags) fs = .ok fs1)
    (h2 : mangleLayer fuel (flattenMangler cfg fuelF) fs1 = .ok fs2)
    (h3 : mangleLayer fuel (tagReformatMangler tag dec enc) fs2 = .ok fs3)
    (h4 : mangleLayer fuel (tagCopyMangler src new) fs3 = .ok fs4)
    (h5 : mangleLayer fuel (stringCastMangler parse) fs4 = .ok tfs)
    (hv : All2 (HG (aliasP tags)) fs vs)
    (e1 : w1 = encLayer (aliasMangler tags) (losslessAlias tags).enc fuel fs vs)
    (hd : ∀ f ∈ fs1, tySize f.2 < fuelF)
    (hc : All2 (flattenGood fuelF) fs1 w1)
    (e2 : w2 = ((fs1.zip w1).map fun p => flatLeaves fuelF p.1.2 p.2).flatten)
    (hw : All2 WS fs2 w2)
    (hel : ∀ f ∈ fs2, hasElemTy f.2 = true)
    (hs : All2 (scGood parse fmt) fs4 w2) :
    ∃ tvals, tvals = (fs4.zip w2).map (fun p => scEnc fmt p.1.2 p.2) ∧
      tvals.length = tfs.length ∧
      reverse fuel [aliasMangler tags, flattenMangler cfg fuelF, tagReformatMangler tag dec enc,
        tagCopyMangler src new, stringCastMangler parse] fs tvals = .ok vs := by
  have hg := All2.and_dom hd hc
  have e2' := (encLayer_noRecurse (losslessFlatten cfg fuelF) rfl fuel fs1 fs2 w1 h2 hg).trans e2.symm
  -- reformat and copy are the identity on values
  have w3 := encLayer_id_WS (losslessTagReformat tag dec enc) (fun _ _ _ => rfl) rfl h3 hw.and_true
  have hs4 := All2.and_dom (mangleLayer_hasElemTy (tagCopy_mangle_ty src new) h4
    (mangleLayer_hasElemTy (tagReformat_mangle_ty tag dec enc) h3 hel)) hs
  have h := C10_chain_roundtrip fuel [lmAlias tags, lmFlatten cfg fuelF, lmTagReformat tag dec enc,
      lmTagCopy src new, lmStringCast parse fmt] fs tfs vs
    (translate_cons h1 (translate_cons h2 (translate_cons h3 (translate_cons h4 (translate_cons h5 rfl)))))
    (.cons h1 hv.and_true e1.symm (.cons h2 hg e2' (.cons_id (fun _ _ _ => rfl) h3 hw.and_true
      (.cons_id (fun _ _ _ => rfl) h4 w3.and_true (.single hs4)))))
  rw [encChain_cons (lmAlias tags) h1 e1.symm, encChain_cons (lmFlatten cfg fuelF) h2 e2',
    encChain_cons_id (lmTagReformat tag dec enc) (fun _ _ _ => rfl) h3 hw.and_true,
    encChain_cons_id (lmTagCopy src new) (fun _ _ _ => rfl) h4 w3.and_true,
    encChain_cons (lmStringCast parse fmt) h5 (encLayer_stringCast parse fmt h5 w2), encChain_nil] at h
  exact ⟨_, rfl, h.2, h.1⟩

/-- Env-source chain with the alias / flatten conditions on the ORIGINAL values (`hv`, `hc`); what remains
on the translated values are the conditions on the flattened leaves `w2`: well-shapedness (`hw`) and
the formatter hypothesis (`hs`). -/
theorem C10_roundtrip_env_chain_canon (tags : List String) (cfg : FlattenCfg) (fuelF fuel : Nat)
    (tag : String) (dec : List Char → Option (List (List Char))) (enc : CaseConv.Scheme) (src new : String)
    (parse : String → Ty → Outcome Val) (fmt : Ty → Val → String)
    (fs fs1 fs2 fs3 fs4 tfs : List FT) (vs w2 : List Val)
    (h1 : mangleLayer fuel (aliasMangler tags) fs = .ok fs1)
    (h2 : mangleLayer fuel (flattenMangler cfg fuelF) fs1 = .ok fs2)
    (h3 : mangleLayer fuel (tagReformatMangler tag dec enc) fs2 = .ok fs3)
    (h4 : mangleLayer fuel (tagCopyMangler src new) fs3 = .ok fs4)
    (h5 : mangleLayer fuel (stringCastMangler parse) fs4 = .ok tfs)
    (hv : All2 (HG (aliasP tags)) fs vs) (hc : All2 Canon fs vs)
    (hd : ∀ f ∈ fs1, tySize f.2 < fuelF)
    (e2 : w2 = ((fs1.zip (encLayer (aliasMangler tags) (losslessAlias tags).enc fuel fs vs)).map
      fun p => flatLeaves fuelF p.1.2 p.2).flatten)
    (hw : All2 WS fs2 w2)
    (hel : ∀ f ∈ fs2, hasElemTy f.2 = true)
    (hs : All2 (scGood parse fmt) fs4 w2) :
    ∃ tvals, tvals = (fs4.zip w2).map (fun p => scEnc fmt p.1.2 p.2) ∧
      tvals.length = tfs.length ∧
      reverse fuel [aliasMangler tags, flattenMangler cfg fuelF, tagReformatMangler tag dec enc,
        tagCopyMangler src new, stringCastMangler parse] fs tvals = .ok vs :=
  C10_roundtrip_env_chain tags cfg fuelF fuel tag dec enc src new parse fmt fs fs1 fs2 fs3 fs4 tfs vs _ w2
    h1 h2 h3 h4 h5 hv rfl hd (alias_flattenGood tags fuelF fuel fs fs1 vs h1 hv hc hd) e2 hw hel hs

/-- anonymous flatten is lossless on `HG anonP`: embedded structs, pointers to structs (an unset embedded
`*struct` has no bare struct-typed field; a set one has a set field), leaves, and — since the repair of
P08, without any condition — embedded pointers to non-structs (`*T` of a named scalar, `*string`,
`**struct`), which Mangle and Unmangle pass through unchanged (`C10_anon_ptr_nonstruct_identity`) -/
theorem C10_lossless_anon (fuel : Nat) : Nonempty (Lossless (anonMangler fuel) (fun _ => True) (HG anonP)) :=
  ⟨losslessAnon fuel⟩

/-- anonymous flatten on an embedded (or not) POINTER whose pointee is not a struct — `*T` of a named scalar,
`*string`, `**struct` (`Type.Elem().Kind()` is Ptr) —: since the repair of P08 Mangle returns the field
unchanged and Unmangle forwards its single value, whatever it is (before: Mangle stripped the pointer
and Unmangle rebuilt a `*struct`) -/
theorem C10_anon_ptr_nonstruct_identity (fuel : Nat) (h : Hdr) (e : Ty) (hne : ∀ ifs, e ≠ .struct ifs)
    (o : FT) (v : Val) (rest : List (FT × Val)) :
    anonMangle (fuel + 1) h (.ptr e) = .ok [(h, .ptr e)] ∧
      anonUnmangle h (.ptr e) ((o, v) :: rest) = .ok v := by
  obtain ⟨n, tg, a⟩ := h
  cases a with
  | false => exact ⟨rfl, rfl⟩
  | true =>
    cases e with
    | struct ifs => exact absurd rfl (hne ifs)
    | _ => exact ⟨rfl, rfl⟩

/-- … in particular `**struct` is passed through, and only `*struct` / `struct` embedded fields are hoisted -/
theorem C10_anon_hoists_only_structs (fuel : Nat) (n : String) (tg : List (String × String)) (ifs : Fields) :
    anonMangle (fuel + 2) ⟨n, tg, true⟩ (.ptr (.struct ifs)) = .ok ifs.toList ∧
    anonMangle (fuel + 1) ⟨n, tg, true⟩ (.struct ifs) = .ok ifs.toList ∧
    anonMangle (fuel + 1) ⟨n, tg, true⟩ (.ptr (.ptr (.struct ifs))) = .ok [(⟨n, tg, true⟩, .ptr (.ptr (.struct ifs)))] := by
  exact ⟨rfl, rfl, rfl⟩

/-- the env source's regenerated chain (F12a) is the chain of `C10_roundtrip_env_chain` -/
theorem C10_env_chain_is_shipped (fuelF : Nat) (parse : String → Ty → Outcome Val) :
    chainOf fuelF parse Facts.chainEnv =
      [aliasMangler ["dials", "dialsenv"], flattenMangler ⟨"dials", .upperCamel, .casePreservingSnake⟩ fuelF,
       tagReformatMangler "dials" CaseConv.decodeGoTags .upperSnake, tagCopyMangler "dials" "dialsenv",
       stringCastMangler parse] := by
  rfl

/-! ### Collections of structs: the recursive pass keeps "unset" and "explicitly empty" apart

`maybeRecursivelyUnmangle` rebuilds a slice (array) of structs element by element.  A nil slice comes back nil;
a list of `n` elements - in particular the EMPTY list, which in Dials means "set to empty" and overrides a
lower layer - comes back as a list of exactly `n` elements.  (C14: an aliased `[]struct` field supplied as `[]`
is a supplied field; C20: a wrapped source's empty list is not turned into "unset".) -/

theorem C10_recurse_nil_slice (fuel : Nat) (m : Mangler) (h : Hdr) (e : Ty) :
    recurseVal (fuel + 1) m (h, .slice e) .nilv = .ok .nilv := by
  unfold recurseVal
  by_cases hr : m.recurse = true
  · cases hs : structish (.slice e) <;> simp [hr]
  · simp [hr]

theorem C10_recurse_list_length (fuel : Nat) (m : Mangler) (h : Hdr) (e : Ty) (vs : List Val) (r : Val)
    (hok : recurseVal (fuel + 1) m (h, .slice e) (.list vs) = .ok r) :
    ∃ rs, r = .list rs ∧ rs.length = vs.length := by
  unfold recurseVal at hok
  by_cases hr : m.recurse = true
  · cases hs : structish (.slice e) with
    | none => simp [hr, hs] at hok; exact ⟨vs, hok.symm, rfl⟩
    | some p =>
      simp only [hr, hs] at hok
      simp only [Bool.not_true, Bool.false_eq_true, ↓reduceIte] at hok
      generalize hm : mapM' _ vs = o at hok
      cases o with
      | ok rs =>
        simp [Outcome.bind] at hok
        exact ⟨rs, hok.symm, mapM'_length hm⟩
      | err c => simp [Outcome.bind] at hok
      | panic c => simp [Outcome.bind] at hok
  · simp [hr] at hok; exact ⟨vs, hok.symm, rfl⟩

/-- the explicitly empty list of structs stays an (empty) list: it is never turned into "unset" -/
theorem C10_recurse_empty_list (fuel : Nat) (m : Mangler) (h : Hdr) (e : Ty) :
    recurseVal (fuel + 1) m (h, .slice e) (.list []) = .ok (.list []) := by
  unfold recurseVal
  by_cases hr : m.recurse = true
  · cases hs : structish (.slice e) <;> simp [hr, mapM', Outcome.bind]
  · simp [hr]

/-! ### Non-vacuity: concrete nested types and values on which the hypotheses of the corollaries hold
and the round trip computes -/

namespace Ex

def getOk (o : Outcome (List FT)) : List FT := match o with | .ok l => l | _ => []
def tInt : Ty := .ptr (.basic (.int .int) false)
def tStr : Ty := .ptr (.basic .str false)
def tBool : Ty := .ptr (.basic .bool false)

/-- The field lists of the examples are named by `getOk`.  That the layers producing them succeed, and the
other decidable facts about these closed lists, are checked by evaluation, once per example (`closed`). -/
theorem getOk_eq {o : Outcome (List FT)} (h : o.isOk = true) : o = .ok (getOk o) := by
  cases o <;> first | rfl | cases h

/-! #### flag chain: `struct { Srv *struct { Port *int `dialsflag:"port" dialsflagalias:"p"`; Name *string }; Dbg *bool }`
with `Srv.Port = 8080`, everything else unset -/
namespace Flag
def tags : List String := ["dials", "dialsflag"]
def cfg : FlattenCfg := ⟨"dials", .upperCamel, .kebab⟩
def inner : Fields :=
  .cons "Port" [("dialsflag", "port"), ("dialsflagalias", "p")] false tInt (.cons "Name" [] false tStr .nil)
def fs : List FT := [(⟨"Srv", [], false⟩, .ptr (.struct inner)), (⟨"Dbg", [], false⟩, tBool)]
def vs : List Val := [.ptr (.struct [.ptr (.i 8080), .nilv]), .nilv]
def fs1 : List FT := getOk (mangleLayer 10 (aliasMangler tags) fs)
def tfs : List FT := getOk (mangleLayer 10 (flattenMangler cfg 20) fs1)
def w1 : List Val := [.ptr (.struct [.ptr (.i 8080), .nilv, .nilv]), .nilv]

theorem closed : (mangleLayer 10 (aliasMangler tags) fs).isOk = true ∧
    (mangleLayer 10 (flattenMangler cfg 20) fs1).isOk = true ∧ ∀ f ∈ fs1, tySize f.2 < 20 := by
  decide
theorem h1 : mangleLayer 10 (aliasMangler tags) fs = .ok fs1 := getOk_eq closed.1
theorem h2 : mangleLayer 10 (flattenMangler cfg 20) fs1 = .ok tfs := getOk_eq closed.2.1
/-- the alias layer doubled the nested field `Port` -/
theorem fs1_shape : ∃ hA hB n1 g1 a1 n2 g2 a2 n3 g3 a3, fs1 =
    [(hA, .ptr (.struct (.cons n1 g1 a1 tInt (.cons n2 g2 a2 tInt (.cons n3 g3 a3 tStr .nil))))), (hB, tBool)] :=
  ⟨_, _, _, _, _, _, _, _, _, _, _, rfl⟩
theorem e1 : w1 = encLayer (aliasMangler tags) (losslessAlias tags).enc 10 fs vs := by rfl
theorem hv : All2 (HG (aliasP tags)) fs vs := by
  simp [fs, vs, inner, HG, Hered, HeredFs_iff, Fields.toList, aliasP, tInt, tStr, tBool, bareStructish]
theorem hd : ∀ f ∈ fs1, tySize f.2 < 20 := closed.2.2
theorem hcanon : All2 Canon fs vs := by
  simp [fs, vs, inner, Canon, CanonAt, CanonFs_iff, Fields.toList, wrapPtrs, anySet, Val.isNil, tInt, tStr, tBool]
theorem hc : All2 (flattenGood 20) fs1 w1 :=
  e1 ▸ alias_flattenGood tags 20 10 fs fs1 vs h1 hv hcanon hd

/-- the hypotheses of `C10_roundtrip_flag_chain` hold here, and the four flattened flag values
`[8080, unset, unset, unset]` reverse to the nested original -/
example : reverse 10 [aliasMangler tags, flattenMangler cfg 20] fs [.ptr (.i 8080), .nilv, .nilv, .nilv] = .ok vs := by
  obtain ⟨tvals, e, _, hr⟩ := C10_roundtrip_flag_chain tags cfg 20 10 fs fs1 tfs vs w1 h1 h2 hv e1 hd hc
  have : tvals = [.ptr (.i 8080), .nilv, .nilv, .nilv] := by
    obtain ⟨hA, hB, n1, g1, a1, n2, g2, a2, n3, g3, a3, h⟩ := fs1_shape
    rw [e, h]
    simp [w1, flatLeaves, flatLeaves.go, flatLeaves.strip, stripPtrs, ptrDepth, Fields.toList, tInt, tStr, tBool]
  rw [this] at hr
  exact hr

/-- … and the hypotheses of `C10_roundtrip_flag_chain_canon` (conditions on the original values only) -/
example : ∃ tvals, tvals.length = tfs.length ∧
    reverse 10 [aliasMangler tags, flattenMangler cfg 20] fs tvals = .ok vs :=
  C10_roundtrip_flag_chain_canon tags cfg 20 10 fs fs1 tfs vs h1 h2 hv hcanon hd
end Flag

/-! #### flag chain over a struct held BY VALUE (what the repair of P02 added):
`struct { Srv *struct { N struct { X *bool }; Name *string } }` with `Srv.N.X = true` -/
namespace ByValue
def tags : List String := ["dials", "dialsflag"]
def cfg : FlattenCfg := ⟨"dials", .upperCamel, .kebab⟩
def inner : Fields :=
  .cons "N" [] false (.struct (.cons "X" [] false tBool .nil)) (.cons "Name" [] false tStr .nil)
def fs : List FT := [(⟨"Srv", [], false⟩, .ptr (.struct inner))]
def vs : List Val := [.ptr (.struct [.struct [.ptr (.b true)], .nilv])]
def fs1 : List FT := getOk (mangleLayer 10 (aliasMangler tags) fs)
def tfs : List FT := getOk (mangleLayer 10 (flattenMangler cfg 20) fs1)
theorem closed : (mangleLayer 10 (aliasMangler tags) fs).isOk = true ∧
    (mangleLayer 10 (flattenMangler cfg 20) fs1).isOk = true ∧ (∀ f ∈ fs1, tySize f.2 < 20) ∧
    ∃ f ∈ fs1, structsBehindPtr f.2 = false := by
  decide
theorem h1 : mangleLayer 10 (aliasMangler tags) fs = .ok fs1 := getOk_eq closed.1
theorem h2 : mangleLayer 10 (flattenMangler cfg 20) fs1 = .ok tfs := getOk_eq closed.2.1
theorem hv : All2 (HG (aliasP tags)) fs vs := by
  simp [fs, vs, inner, HG, Hered, HeredFs_iff, Fields.toList, aliasP, tStr, tBool, isAliased, tags, tagGet]
theorem hcanon : All2 Canon fs vs := by
  simp [fs, vs, inner, Canon, CanonAt, CanonFs_iff, Fields.toList, wrapPtrs, anySet, Val.isNil, tStr, tBool]
theorem hd : ∀ f ∈ fs1, tySize f.2 < 20 := closed.2.2.1
/-- the type is NOT one with every struct behind a pointer (the old hypothesis excluded it) -/
example : ∃ f ∈ fs1, structsBehindPtr f.2 = false := closed.2.2.2
/-- … and the hypotheses of `C10_roundtrip_flag_chain_canon` hold: some filling of the two flags reverses
to the value with the rebuilt by-value struct -/
example : ∃ tvals, tvals.length = tfs.length ∧
    reverse 10 [aliasMangler tags, flattenMangler cfg 20] fs tvals = .ok vs :=
  C10_roundtrip_flag_chain_canon tags cfg 20 10 fs fs1 tfs vs h1 h2 hv hcanon hd
/-- `C10_flatten_canon` on the same field: its leaves are `[true, unset]` and populate restores it -/
example : populate 20 (.ptr (.struct inner)) [.ptr (.b true), .nilv] =
    .ok (.ptr (.struct [.struct [.ptr (.b true)], .nilv]), [], true) := by
  have := (C10_flatten_canon 20 (⟨"Srv", [], false⟩, .ptr (.struct inner))
    (.ptr (.struct [.struct [.ptr (.b true)], .nilv])) (by decide) hcanon.1).1
  simpa [inner, flatLeaves, flatLeaves.go, flatLeaves.strip, stripPtrs, ptrDepth, Fields.toList, tStr, tBool,
    Val.isNil] using this
end ByValue

/-! #### decoder chain with set → slice: `struct { Timeout *time.Duration `dials:"timeout"`;
Peers []struct { Name string `dials:"name"`; TTL time.Duration }; Seen map[string]struct{} }` -/
namespace Decoder
def peer : Fields := .cons "Name" [("dials", "name")] false (.basic .str false) (.cons "TTL" [] false .dur .nil)
def fs : List FT :=
  [(⟨"Timeout", [("dials", "timeout")], false⟩, .ptr .dur),
   (⟨"Peers", [], false⟩, .slice (.struct peer)),
   (⟨"Seen", [], false⟩, .set (.basic .str false))]
def vs : List Val :=
  [.ptr (.i 5), .list [.struct [.s "a", .i 1], .struct [.s "b", .i 2]], .setv [.s "x"]]
def chain : List Mangler := [setSliceMangler, durSubMangler, tagCopyMangler "dials" "json"]
def tfs : List FT := getOk (translate 10 chain fs)
theorem closed : (translate 10 chain fs).isOk = true ∧
    (translate 10 [durSubMangler, tagCopyMangler "dials" "json"] (fs.take 2)).isOk = true := by
  decide
theorem ht : translate 10 chain fs = .ok tfs := getOk_eq closed.1
theorem hv : All2 (HG setP) fs vs := by
  simp [fs, vs, peer, HG, Hered, HeredFs_iff, Fields.toList, setP]

/-- the hypotheses of `C10_roundtrip_decoder_chain_set` hold here (the recursion goes into the elements of
`Peers`), and the decoded values — the set as a list — reverse to the original -/
example : reverse 10 chain fs
    [.ptr (.i 5), .list [.struct [.s "a", .i 1], .struct [.s "b", .i 2]], .list [.s "x"]] = .ok vs := by
  obtain ⟨tvals, e, _, hr⟩ := C10_roundtrip_decoder_chain_set "dials" "json" 10 fs tfs vs ht hv
  have : tvals = [.ptr (.i 5), .list [.struct [.s "a", .i 1], .struct [.s "b", .i 2]], .list [.s "x"]] :=
    e.trans rfl
  rw [this] at hr
  exact hr

/-- … and without the set field, `C10_roundtrip_decoder_chain`: the values are untouched -/
example : reverse 10 [durSubMangler, tagCopyMangler "dials" "json"] (fs.take 2) (vs.take 2) = .ok (vs.take 2) :=
  (C10_roundtrip_decoder_chain "dials" "json" 10 (fs.take 2) _ (vs.take 2) (getOk_eq closed.2)
    (by simp [fs, vs, peer, HG, Hered, HeredFs_iff, Fields.toList, PTrue])).1
end Decoder

/-! #### env chain (the shipped parameters), all fields `*string`, with a toy parse.String / formatter -/
namespace Env
def tags : List String := ["dials", "dialsenv"]
def cfg : FlattenCfg := ⟨"dials", .upperCamel, .casePreservingSnake⟩
def inner : Fields :=
  .cons "Port" [("dials", "port"), ("dialsenvalias", "SRV_P")] false tStr (.cons "Name" [] false tStr .nil)
def fs : List FT := [(⟨"Srv", [], false⟩, .ptr (.struct inner)), (⟨"Dbg", [], false⟩, tStr)]
def vs : List Val := [.ptr (.struct [.ptr (.s "8080"), .nilv]), .ptr (.s "yes")]
def parse : String → Ty → Outcome Val := fun str _ => .ok (.ptr (.s str))
def fmt : Ty → Val → String := fun _ v => match v with | .ptr (.s x) => x | _ => ""
abbrev m1 := aliasMangler tags
abbrev m2 := flattenMangler cfg 20
abbrev m3 := tagReformatMangler "dials" CaseConv.decodeGoTags .upperSnake
abbrev m4 := tagCopyMangler "dials" "dialsenv"
abbrev m5 := stringCastMangler parse
def fs1 := getOk (mangleLayer 10 m1 fs)
def fs2 := getOk (mangleLayer 10 m2 fs1)
def fs3 := getOk (mangleLayer 10 m3 fs2)
def fs4 := getOk (mangleLayer 10 m4 fs3)
def tfs := getOk (mangleLayer 10 m5 fs4)
def w1 : List Val := [.ptr (.struct [.ptr (.s "8080"), .nilv, .nilv]), .ptr (.s "yes")]
def w2 : List Val := [.ptr (.s "8080"), .nilv, .nilv, .ptr (.s "yes")]
/-- the five layers succeed; the flattened fields `fs2` are as many as the texts `w2`, none of them
struct-ish; the fields `fs4` the string cast meets are four, none of them a pointer to a collection -/
theorem closed : ((mangleLayer 10 m1 fs).isOk = true ∧ (mangleLayer 10 m2 fs1).isOk = true ∧
      (mangleLayer 10 m3 fs2).isOk = true ∧ (mangleLayer 10 m4 fs3).isOk = true ∧
      (mangleLayer 10 m5 fs4).isOk = true) ∧
    (∀ f ∈ fs1, tySize f.2 < 20) ∧
    (w2.length = fs2.length ∧ ∀ f ∈ fs2, (structish f.2).isNone = true) ∧
    (∀ f ∈ fs2, hasElemTy f.2 = true) ∧
    (fs4.length = 4 ∧ ∀ f ∈ fs4, scBoxed f.2 = false) := by
  decide
theorem h1 : mangleLayer 10 m1 fs = .ok fs1 := getOk_eq closed.1.1
theorem h2 : mangleLayer 10 m2 fs1 = .ok fs2 := getOk_eq closed.1.2.1
theorem h3 : mangleLayer 10 m3 fs2 = .ok fs3 := getOk_eq closed.1.2.2.1
theorem h4 : mangleLayer 10 m4 fs3 = .ok fs4 := getOk_eq closed.1.2.2.2.1
theorem h5 : mangleLayer 10 m5 fs4 = .ok tfs := getOk_eq closed.1.2.2.2.2
theorem e1 : w1 = encLayer m1 (losslessAlias tags).enc 10 fs vs := by rfl
theorem fs1_shape : ∃ hA hB n1 g1 a1 n2 g2 a2 n3 g3 a3, fs1 =
    [(hA, .ptr (.struct (.cons n1 g1 a1 tStr (.cons n2 g2 a2 tStr (.cons n3 g3 a3 tStr .nil))))), (hB, tStr)] :=
  ⟨_, _, _, _, _, _, _, _, _, _, _, rfl⟩
theorem hv : All2 (HG (aliasP tags)) fs vs := by
  simp [fs, vs, inner, HG, Hered, HeredFs_iff, Fields.toList, aliasP, tStr, bareStructish]
theorem hd : ∀ f ∈ fs1, tySize f.2 < 20 := closed.2.1
theorem hc : All2 (flattenGood 20) fs1 w1 := by
  refine e1 ▸ alias_flattenGood tags 20 10 fs fs1 vs h1 hv ?_ hd
  simp [fs, vs, inner, Canon, CanonAt, CanonFs_iff, Fields.toList, wrapPtrs, anySet, Val.isNil, tStr]
theorem e2 : w2 = ((fs1.zip w1).map fun p => flatLeaves 20 p.1.2 p.2).flatten := by
  obtain ⟨hA, hB, n1, g1, a1, n2, g2, a2, n3, g3, a3, h⟩ := fs1_shape
  rw [h]
  simp [w1, w2, flatLeaves, flatLeaves.go, flatLeaves.strip, stripPtrs, ptrDepth, Fields.toList, tStr]

-- From here on the later field lists are opaque to the elaborator: it evaluates a closed term it meets in an
-- expected type, and the facts below need these lists only through `closed`.
attribute [local irreducible] fs2 fs3 fs4

theorem hw : All2 WS fs2 w2 :=
  WS_of_leaves closed.2.2.1.1 fun f hf => Option.isNone_iff_eq_none.1 (closed.2.2.1.2 f hf)
theorem hel : ∀ f ∈ fs2, hasElemTy f.2 = true := closed.2.2.2.1
/-- the four texts `w2` at four fields none of which is a pointer to a collection: what the toy parser
makes of each text is the text … -/
theorem texts_good {l : List FT} (h : l.length = 4 ∧ ∀ f ∈ l, scBoxed f.2 = false) :
    All2 (scGood parse fmt) l w2 := by
  match l, h with
  | [f1, f2, f3, f4], ⟨_, hb⟩ =>
    exact ⟨.inr ⟨_, rfl, by rw [hb f1 (by simp)]; rfl⟩, .inl rfl, .inl rfl,
      .inr ⟨_, rfl, by rw [hb f4 (by simp)]; rfl⟩, trivial⟩
/-- … and the string cast hands the texts on as they are -/
theorem texts_enc {l : List FT} (h : l.length = 4) :
    (l.zip w2).map (fun p => scEnc fmt p.1.2 p.2) = [.ptr (.s "8080"), .nilv, .nilv, .ptr (.s "yes")] := by
  match l, h with
  | [_, _, _, _], _ => rfl
theorem hs : All2 (scGood parse fmt) fs4 w2 := texts_good closed.2.2.2.2

/-- the hypotheses of `C10_roundtrip_env_chain` hold here, and the four environment texts
`["8080", unset, unset, "yes"]` reverse to the nested original -/
example : reverse 10 [m1, m2, m3, m4, m5] fs [.ptr (.s "8080"), .nilv, .nilv, .ptr (.s "yes")] = .ok vs := by
  obtain ⟨tvals, e, _, hr⟩ := C10_roundtrip_env_chain tags cfg 20 10 "dials" CaseConv.decodeGoTags .upperSnake
    "dials" "dialsenv" parse fmt fs fs1 fs2 fs3 fs4 tfs vs w1 w2 h1 h2 h3 h4 h5 hv e1 hd hc e2 hw hel hs
  rw [e.trans (texts_enc closed.2.2.2.2.1)] at hr
  exact hr
end Env

end Ex

end Dials.C10
