/-
C19 — Case conversion: matched encoders and decoders are inverse; Go-identifier decoding
splits names made of capitalised words and initialisms into exactly those words.
-/
import DialsModel.Lemmas.CaseConv
import DialsModel.Lemmas.GoIdent

namespace Dials.C19
open Dials Dials.CaseConv

/-- Round trip for all six schemes and every non-empty list of words over [a-z][a-z0-9]*
(any number of words, any length). -/
theorem C19_roundtrip (sc : Scheme) (ws : Words) (hne : ws ≠ []) (h : ∀ w ∈ ws, isWord w = true) :
    sc.decode (sc.encode ws) = some ws := by
  have hid : ws.map (List.map id) = ws := by simp
  obtain ⟨w, ws', rfl⟩ := List.exists_cons_of_ne_nil hne
  obtain ⟨c, cs, rfl, hc, hcs⟩ := word_cases (h w (by simp))
  cases sc with
  | upperCamel =>
    have hU := isUpperA_toUpperA c hc
    have := camelLoop_words _ h [] (.inr hne)
    simp only [List.map_cons, List.flatten_cons, title, List.cons_append] at this
    simp [Scheme.decode, Scheme.encode, encodeUpperCamel, title, decodeUpperCamel, decodeCamel, badStart, hU,
      not_digit_of_upper _ hU, this]
  | lowerCamel =>
    have hall := word_all_lowerOk (h _ List.mem_cons_self)
    have := camelLoop_tail (c :: cs) hall ((ws'.map title).flatten) []
    rw [camelLoop_words ws' (fun v hv => h v (by simp [hv])) _ (.inl (by simp))] at this
    simp only [List.cons_append, List.nil_append] at this
    simp [Scheme.decode, Scheme.encode, encodeLowerCamel, decodeLowerCamel, decodeCamel, badStart, hc,
      not_digit_of_lower c hc, this, lowerS_of_all_lowerOk _ hall]
  | lowerSnake =>
    exact split_roundtrip '_' lowerOk false toLowerA
      (fun c hc => by rw [lowerOk_toLower hc]; exact ⟨hc, lowerOk_ne_us hc, lowerOk_toLower hc⟩) _ hne h
  | upperSnake =>
    exact split_roundtrip '_' upperOk false toUpperA
      (fun c hc => ⟨lowerOk_upperOk_upper hc, upperOk_ne_us (lowerOk_upperOk_upper hc), lowerOk_lower_upper hc⟩)
      _ hne h
  | kebab =>
    have := split_roundtrip '-' lowerOk false id (fun c hc => ⟨hc, lowerOk_ne_dash hc, lowerOk_toLower hc⟩)
      _ hne h
    rwa [hid] at this
  | casePreservingSnake =>
    have := split_roundtrip '_' isAlnum true id (fun c hc => ⟨lowerOk_alnum hc, lowerOk_ne_us hc, lowerOk_toLower hc⟩)
      _ hne h
    rwa [hid] at this

/-- The guard `ws ≠ []` in `C19_roundtrip` is exact: the encoding of the empty word list is
rejected by every decoder. -/
theorem C19_empty_rejected (sc : Scheme) : sc.decode (sc.encode []) = none := by
  cases sc <;> rfl

/-- non-vacuity: the hypotheses of `C19_roundtrip` are satisfiable by a non-trivial list -/
example : (∀ w ∈ ["http2".toList, "x".toList, "port".toList], isWord w = true) ∧
    Scheme.upperSnake.decode (Scheme.upperSnake.encode ["http2".toList, "x".toList, "port".toList])
      = some ["http2".toList, "x".toList, "port".toList] := by decide

/-- Go-identifier decoding: an identifier rendered from any list of capitalised words
`[A-Z][a-z]+` and initialisms that satisfies the decidable side condition `GoodIdent`
(every maximal run of adjacent initialisms is tokenised as intended by the scan-order matcher;
no capitalised word shorter than three characters directly after an initialism at the very end)
decodes to exactly those words.  Any number of tokens, any order.  Parametric in the initialism
list; `decodeGoCamel` instantiates it with the list regenerated from the source (F11). -/
theorem C19_go_ident (ts : List Tok) (h : GoodIdent initialisms ts = true) :
    decodeGoCamel (render ts) = some (expected ts) :=
  decodeGoCamelWith_good initialisms ts h

/-- Every initialism of the current source list except HTTPS and UID (which are shadowed by the
earlier entries HTTP and UI: finding D11) and UTF8 (digit: D16) forms a good identifier between
two capitalised words; so e.g. `UserIDName`, `JSONFile`, `HTTPPort` keep every word boundary.
The quantifier is the finite table `Facts.initialisms`; `decide` enumerates all of it. -/
theorem C19_single_initialism :
    ∀ i ∈ initialisms, i ≠ "HTTPS".toList → i ≠ "UID".toList → i ≠ "UTF8".toList →
      GoodIdent initialisms [.word "User".toList, .init i, .word "Name".toList] = true ∧
      GoodIdent initialisms [.init i, .word "File".toList] = true ∧
      GoodIdent initialisms [.word "User".toList, .init i] = true := by
  decide

/-- The full-strength statement ("every identifier assembled from capitalised words and the
initialism list decodes to its tokens") is false of the current code: finding D11. -/
theorem C19_shadowed_counterexample :
    decodeGoCamel "HTTPSPort".toList = some ["http".toList, "s".toList, "port".toList] ∧
    decodeGoCamel "UserUID".toList = some ["user".toList, "ui".toList, "d".toList] := by
  decide

/-- finding D14: a two-letter word after an initialism at the very end is glued to it -/
theorem C19_short_tail_counterexample :
    decodeGoCamel "HTMLRo".toList = some ["htmlro".toList] := by decide

/-- non-vacuity of `C19_go_ident`: a five-token identifier with two adjacent initialisms -/
example : GoodIdent initialisms [.word "My".toList, .init "JSON".toList, .init "API".toList,
    .word "Ab".toList, .word "Cd".toList] = true := by decide

end Dials.C19
