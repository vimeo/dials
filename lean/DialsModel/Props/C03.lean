/-
C03 — Cyclic and shared reference graphs are copied safely and faithfully.
-/
import DialsModel.Lemmas.HeapCopy

namespace Dials.C03
open Dials Dials.Heap

/-- more fuel never changes a result -/
theorem C03_fuel_mono (f : Nat) (s : CS) (v : HV) (r : CS × HV) (h : copyV f s v = some r) :
    copyV (f + 1) s v = some r :=
  fuel_mono_succ.1 f s v r h

/-- The copier terminates on every well-formed heap — any number of cells, any edge set: self-loops,
cycles, diamonds, shared maps, references held in slices, arrays, maps and interfaces — provided no
slice contains itself without passing through a pointer or map (finding D17). -/
theorem C03_terminates (h : Heap) (v : HV) (hwf : WF h v = true) (hso : SliceOrdered h) :
    ∃ f, ∀ f', f ≤ f' → deepCopy f' h v ≠ none := by
  obtain ⟨hv, hh⟩ := WF_iff.1 hwf
  obtain ⟨s', v', hr⟩ := run_exists (.of_heapOK hh) hso _ _ _ (CS.init h) (.v v) ⟨Nat.le_refl _, fun _ _ => rfl⟩ hv
    (Nat.le_refl _) (okTask_sb (t := .v v) hv) (Nat.lt_succ_self _)
  obtain ⟨f, hf⟩ := complete hr
  refine ⟨f, fun f' hle => ?_⟩
  have : copyV f' { heap := h, pmemo := [], mmemo := [] } v = some (s', v') := copyV_mono hle hf
  simp [deepCopy, this]

/-- The input heap is left untouched: the copy only appends cells. -/
theorem C03_frozen (f : Nat) (h h' : Heap) (v v' : HV) (hc : deepCopy f h v = some (h', v')) :
    h.length ≤ h'.length ∧ ∀ a, a < h.length → h'[a]? = h[a]? :=
  deepCopy_frozen hc

/-- Everything reachable from the copy through exported fields is fresh. -/
theorem C03_fresh (f : Nat) (h h' : Heap) (v v' : HV) (hwf : WF h v = true)
    (hc : deepCopy f h v = some (h', v')) : ∀ a, ReachV h' v' a → h.length ≤ a :=
  deepCopy_fresh (WF_iff.1 hwf).2 (WF_iff.1 hwf).1 hc

/-- The copy is isomorphic to the input: there is a one-to-one translation of pointee cells and of map
cells under which the copy is the image of the input (so it is deeply equal, identical pointer- or
map-typed references stay identical to one another, cycles stay cycles), and all translated cells
are fresh. -/
theorem C03_iso (f : Nat) (h h' : Heap) (v v' : HV) (hwf : WF h v = true) (hso : SliceOrdered h)
    (hc : deepCopy f h v = some (h', v')) :
    ∃ pm mm, Sim h h' pm mm v v' ∧ CellsSim h h' pm mm ∧ Injective pm ∧ Injective mm ∧
      (∀ a a', lookup pm a = some a' → h.length ≤ a') ∧ (∀ a a', lookup mm a = some a' → h.length ≤ a') := by
  have _ := hso  -- not needed: `hc` already witnesses termination
  obtain ⟨s', hr, rfl, hi, _⟩ := deepCopy_inv (WF_iff.1 hwf).2 (WF_iff.1 hwf).1 (Nat.le_refl _) (Closed.above h) hc
  obtain ⟨hsim, hnew⟩ := run_iso hr nofun (h2 := s'.heap) ⟨Ext.refl _, Ext.refl _, fun _ _ _ => rfl⟩
  refine ⟨s'.pmemo, s'.mmemo, hsim, ⟨fun a a' hl => hnew.1 a a' hl (lookup_nil a), fun a a' hl => ?_⟩,
    hi.pinj, hi.minj, fun a a' hl => (hi.pb a a' hl).1, fun a a' hl => (hi.mb a a' hl).1⟩
  obtain ⟨es, es', h1, h2, h3⟩ := hnew.2 a a' hl (lookup_nil a)
  exact ⟨es, es', h1, h2, h3.index.1, h3.index.2⟩

/-- The model does exhibit the non-termination of finding D17: a slice that contains itself through an
interface value exhausts any fuel. -/
theorem C03_self_slice_diverges (f : Nat) :
    deepCopy f [.arr [.ifc (.sl 0 1)]] (.sl 0 1) = none := by
  simp [deepCopy, (self_slice_none f { heap := [.arr [.ifc (.sl 0 1)]], pmemo := [], mmemo := [] } rfl).1]

/-- non-vacuity: a well-formed, slice-ordered heap with a self-loop, a 2-cycle through an interface,
a shared map that contains itself, and a slice of pointers -/
example : WF [.val (.st (.cons true (.ptr 0) (.cons true (.ifc (.ptr 1)) (.cons true (.mp 2) .nil)))),
              .val (.st (.cons true (.ptr 0) (.cons false (.ptr 1) .nil))),
              .mapc [(.sc 1, .ifc (.mp 2)), (.sc 2, .ptr 1)],
              .arr [.ptr 0, .ptr 1, .nil]]
             (.st (.cons true (.sl 3 2) (.cons true (.mp 2) .nil))) = true := by decide

end Dials.C03
