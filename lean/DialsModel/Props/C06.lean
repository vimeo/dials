/-
C06 — Callbacks: serialized, in order, never stale, none after unregister.
Serialization itself is structural in the model (one callback goroutine, `CbPc.calls` holds the one
call that is running) and is tied to the code by the correspondence check.
-/
import DialsModel.Model.RuntimeSpec
import DialsModel.Lemmas.RuntimeCb

namespace Dials.C06
open Dials Dials.Runtime

/-- The catch-up call is made exactly when the registration carried a config (a serial from
ViewVersion) and a newer version had already been announced when it was processed; its arguments are
the registration's config and the last announced version. -/
theorem C06_catchup_iff (hs : List (Nat × Nat)) (ls : Nat) (lv : Option Slots) (h ser : Nat) (cfg : Option Slots) :
    callsFor hs ls lv (.reg h ser cfg) =
      (match cfg with
       | some c => if ser < ls then [Call.user h c (lv.getD []) ls true] else []
       | none => []) := by
  cases cfg <;> simp [callsFor, Facts.catchUp]

/-- The calls made for a new-config event: the global callback unless withheld, then every
registered callback whose registration serial is older than the event, in registration order. -/
theorem C06_calls_for_new (hs : List (Nat × Nat)) (ls : Nat) (lv : Option Slots) (old : Slots) (new : Version) (supp : Bool) :
    callsFor hs ls lv (.newCfg old new supp) =
      (if supp then [] else [Call.onNew old new.cfg new.serial]) ++
        (hs.filter (fun h => decide (h.2 < new.serial))).map (fun h => Call.user h.1 old new.cfg new.serial false) := by
  have : (fun h : Nat × Nat => !(Facts.cbSkip h.2 new.serial)) = (fun h => decide (h.2 < new.serial)) := by
    funext h; simp only [Facts.cbSkip, ge_iff_le]; by_cases hh : h.2 < new.serial <;> simp [hh] <;> omega
  cases supp <;> simp [callsFor, Facts.globalGate, this]

/-- A registered callback never receives a version twice or out of order, and never one older than
or equal to the version it registered with. -/
theorem C06_no_stale_dup {W : World} {P : Params} {sl : Slots} {w : List Bool} {s : State} {ls : List Label}
    (hrun : run W (initState P sl w) ls = some s) (hu : RegsUnique ls) :
    (∀ h o1 n1 s1 c1 o2 n2 s2 c2,
        Before s.history (.enter (.user h o1 n1 s1 c1)) (.enter (.user h o2 n2 s2 c2)) → s1 < s2) ∧
    (∀ h o n sr cu c ser cfg ctx, Obs.enter (.user h o n sr cu) ∈ s.log →
        Label.begin c (.register h ser cfg) ctx ∈ ls → ser < sr) := by
  have hi := reg hrun hu
  refine ⟨?_, ?_⟩
  · intro h o1 n1 s1 c1 o2 n2 s2 c2 hb
    obtain ⟨l1, l2, l3, hl⟩ := before_enters hb
    exact pairwise_of_split (hi.s.pw.sublist (enters_sublist s)) hl rfl
  · intro h o n sr cu c ser cfg ctx hm hl
    obtain ⟨ser', ⟨c', cfg', ctx', hb⟩, hlt⟩ := hi.b.ents h o n sr cu (entered_mem hm)
    rw [regsUnique_ser hu hl hb]
    exact hlt

/-- OnNewConfig sees strictly increasing versions. -/
theorem C06_global_increasing {W : World} {P : Params} {sl : Slots} {w : List Bool} {s : State}
    (hr : Reachable W P sl w s) (o1 n1 : Slots) (s1 : Nat) (o2 n2 : Slots) (s2 : Nat)
    (h : Before s.history (.enter (.onNew o1 n1 s1)) (.enter (.onNew o2 n2 s2))) : s1 < s2 := by
  obtain ⟨l1, l2, l3, hl⟩ := before_enters h
  exact pairwise_of_split ((base hr).four.pw.sublist (enters_sublist s)) hl

/-- In every ordinary (non-catch-up) call the new config is installed version `ser` and the old config
is its immediate predecessor. -/
theorem C06_old_is_pred {W : World} {P : Params} {sl : Slots} {w : List Bool} {s : State}
    (hr : Reachable W P sl w s) :
    (∀ old new ser, Obs.enter (.onNew old new ser) ∈ s.log →
        1 ≤ ser ∧ (s.versions sl)[ser]? = some ⟨ser, new⟩ ∧ ((s.versions sl)[ser - 1]?).map (·.cfg) = some old) ∧
    (∀ h old new ser, Obs.enter (.user h old new ser false) ∈ s.log →
        1 ≤ ser ∧ (s.versions sl)[ser]? = some ⟨ser, new⟩ ∧ ((s.versions sl)[ser - 1]?).map (·.cfg) = some old) := by
  exact ⟨fun old new ser h => entered_ok hr h, fun h old new ser hh => entered_ok hr hh⟩

/-- Once the callback goroutine has processed the unregistration of a handle, that callback is never
entered again; and an unregister function returns true only right after that processing. -/
theorem C06_none_after_unreg {W : World} {P : Params} {sl : Slots} {w : List Bool} {s : State} {ls : List Label}
    (hrun : run W (initState P sl w) ls = some s) (hu : RegsUnique ls) (ho : UnregOwned W P sl w ls) :
    (∀ h o n sr cu, ¬ Before s.history (.unregProcessed h) (.enter (.user h o n sr cu))) ∧
    (∀ c l1 l2, s.log = l1 ++ Obs.ret c .unregTrue :: l2 → ∃ h l3, l2 = Obs.unregProcessed h :: l3) := by
  refine ⟨?_, (base ⟨ls, hrun⟩).adj⟩
  intro h o n sr cu hb
  obtain ⟨l1, l2, l3, hl⟩ := before_log hb
  exact pairwise_of_split (unreg hrun hu ho).ru hl rfl

/-- As long as nothing was dropped, every installed version has been queued for the callbacks
(between updates). -/
theorem C06_no_skip_without_drop {W : World} {P : Params} {sl : Slots} {w : List Bool} {s : State}
    (hr : Reachable W P sl w s) (hnd : ∀ ev, Obs.dropped ev ∉ s.log) (hidle : s.mon.idle = true) :
    ∀ v ∈ s.installs, ∃ old supp skip, Obs.queued (.newCfg old v supp) skip ∈ s.log := by
  intro v hv
  rcases (base hr).five with ⟨ev, h⟩ | h
  · exact absurd h (hnd ev)
  · rcases h v (mem_installs hv) with h | ⟨h, _⟩
    · exact h
    · rw [old_of_idle hidle] at h
      cases h

/-- Events are handed to the callback goroutine in the order they were queued (FIFO), so callbacks run
in installation order: the new-config events it has dequeued so far have strictly increasing serials. -/
theorem C06_dequeue_in_order {W : World} {P : Params} {sl : Slots} {w : List Bool} {s : State}
    (hr : Reachable W P sl w s) :
    (∀ old new supp, s.cb = .got (.newCfg old new supp) → s.lastSerial < new.serial) ∧
    List.Pairwise (fun a b => match a, b with
      | .newCfg _ n1 _, .newCfg _ n2 _ => n1.serial < n2.serial
      | _, _ => True) s.cbch := by
  have h2 := (base hr).two
  refine ⟨fun old new supp h => ?_, (h2.q.pw.sublist (List.sublist_append_right ..)).imp ?_⟩
  · exact (h2.q.bnd _ (List.mem_append_left _ (by rw [h]; exact List.mem_singleton_self _))).1
  · intro a b hab
    cases a <;> cases b <;> first | trivial | exact hab

end Dials.C06
