/-
C11 — Environment source: documented names, exact values, nothing else touched.

Property theorems only (helper lemmas live in Lemmas/EnvAlias.lean and Lemmas/EnvValue.lean).
-/
import DialsModel.Model.TfSpec
import DialsModel.Lemmas.CaseConv
import DialsModel.Lemmas.GoIdent
import DialsModel.Lemmas.EnvAlias
import DialsModel.Lemmas.EnvValue
import DialsModel.Props.C19

namespace Dials.C11
open Dials Dials.Tf

/-- F22: the environment is a partial map from exact names to values, as the theorems below take it: the source
consults it through `os.LookupEnv(name)` only (one exact-name lookup per field; the value is the variable's bytes as they
are, an empty variable is present), never through a hand-split snapshot of `os.Environ()` or `os.Getenv`. -/
theorem C11_environment_is_a_lookup : 1 ≤ Facts.envLookupCalls ∧ Facts.envOtherReads = 0 := by
  decide

/-- The variable consulted for a translated field is its `dialsenv` tag, after the optional prefix
and an underscore. -/
theorem C11_prefix (fuel : Nat) (chain : List Mangler) (pfx : String) (fs tfs : List FT)
    (ht : translate fuel chain fs = .ok tfs) :
    envNames fuel chain pfx fs = .ok (tfs.map fun f =>
      if pfx == "" then (tagGet f.1.tags "dialsenv").getD "" else pfx ++ "_" ++ (tagGet f.1.tags "dialsenv").getD "") := by
  unfold envNames
  rw [ht]

/-- Nothing else in the environment matters: two environments that agree on the consulted names give
the same result (value or error). -/
theorem C11_nothing_else (fuel : Nat) (chain : List Mangler) (pfx : String) (fs : List FT)
    (env1 env2 : String → Option String) (names : List String)
    (hn : envNames fuel chain pfx fs = .ok names) (hagree : ∀ n ∈ names, env1 n = env2 n) :
    envValue fuel chain pfx fs env1 = envValue fuel chain pfx fs env2 := by
  rw [envNames_eq] at hn
  rw [envValue_eq, envValue_eq]
  cases htr : translate fuel chain fs with
  | err c => rfl
  | panic c => rfl
  | ok tfs =>
    rw [htr] at hn
    injection hn with hn
    subst hn
    simp only
    rw [mapM'_congr (envField pfx env1) (envField pfx env2) tfs
      (fun f hf => envField_congr pfx env1 env2 f (hagree _ (List.mem_map_of_mem hf)))]

/-- With none of the consulted variables present the translated value handed to ReverseTranslate is
entirely unset. -/
theorem C11_absent (fuel : Nat) (chain : List Mangler) (pfx : String) (fs tfs : List FT)
    (ht : translate fuel chain fs = .ok tfs) (env : String → Option String)
    (hnone : ∀ f ∈ tfs, ∀ name, tagGet f.1.tags "dialsenv" = some name → name ≠ "" →
        env (if pfx == "" then name else pfx ++ "_" ++ name) = none)
    (htags : ∀ f ∈ tfs, ∃ name, tagGet f.1.tags "dialsenv" = some name ∧ name ≠ "") :
    envValue fuel chain pfx fs env = reverse fuel chain fs (nils tfs.length) := by
  rw [envValue_fill fuel chain pfx fs tfs env ht htags, envFill, nils, List.map_eq_replicate_iff.2]
  intro f hf
  obtain ⟨name, hg, hne⟩ := htags f hf
  simp only [envFillOne, envKey_of_tag hg, hnone f hf name hg hne]

/-
ORIGINAL STATEMENT (FALSE as written; kept verbatim):

theorem C11_name_join (segs : List (List Char)) (hne : ∀ s ∈ segs, s ≠ [])
    (hsep : ∀ s ∈ segs, ∀ c ∈ s, c ≠ '_' ∧ c ≠ '-') :
    CaseConv.decodeGoTags (CaseConv.joinWith '_' segs) =
      some (segs.flatMap fun s => (CaseConv.decodeGoTags s).getD [])

Counterexamples (machine-checked: `C11_name_join_counterexamples`, `C11_name_join_original_false`):
`goLoop` looks ahead two characters (`firstAfterInitialism`) and treats the end of the string
specially, so a NON-FINAL segment is decoded as if it were followed by a separator, which is not
always how it is decoded on its own:

  segs = ["URLs", "abc"]   joined "URLs_abc"  ↦ ["ur", "ls", "abc"]   but  "URLs"  ↦ ["urls"]
  segs = ["HTTPa", "abc"]  joined "HTTPa_abc" ↦ ["htt", "pa", "abc"]  but  "HTTPa" ↦ ["httpa"]
  segs = ["x9Y", "abc"]    joined "x9Y_abc"   ↦ ["x9y", "abc"]        but  "x9Y"   ↦ ["y"]   (the end-of-string
                                                                      branch drops "x9", as the code does)
  segs = ["ID1", "abc"]    joined "ID1_abc"   ↦ ["id", "1", "abc"]    but  "ID1"   ↦ ["id1"]

(the word boundary BETWEEN segments is never lost in any of these; what differs is the decoding of
the segment itself).  What is true:

  * `C11_name_join_general` (no hypothesis at all): every segment but the last is decoded as if
    followed by a separator, the last one on its own;
  * `C11_name_join_partial`: the original equation for separator-stable segments
    (`CaseConv.SepStable s`: `decodeGoTags (s ++ "_") = decodeGoTags s`, decidable);
  * separator-stable are (`C11_sep_stable_classes`): lower-case words `[a-z][a-z0-9]*` — more generally
    segments without upper-case characters and separators containing a lower-case letter —, non-empty
    all-upper-case segments, and capitalised segments `[A-Z][a-z]` followed by non-upper-case
    characters;
  * `C11_name_join_words`: for lower-case words (what `DecodeGoCamelCase` of field names produces)
    the join decodes to exactly the words.
-/

/-- Decoding the case-preserving-snake join of ANY segments: every segment but the last is decoded
as if followed by a separator, the last one on its own; in particular the boundary between two path
elements is never lost.  (No hypotheses: empty segments and segments containing separators
included.) -/
theorem C11_name_join_general (segs : List (List Char)) (last : List Char) :
    CaseConv.decodeGoTags (CaseConv.joinWith '_' (segs ++ [last])) =
      some ((segs.flatMap fun s => (CaseConv.decodeGoTags (s ++ ['_'])).getD []) ++
        (CaseConv.decodeGoTags last).getD []) := by
  simp only [CaseConv.decodeGoTags_eq, Option.getD_some]
  unfold CaseConv.goTagWords
  rw [CaseConv.goLoop_join]
  simp [CaseConv.goTagWords]

/-- Word boundaries survive the join: the original `C11_name_join` equation under the hypothesis
`hstable` that every segment is separator-stable (`CaseConv.SepStable`: a following separator does
not change how the segment is decoded).  The original hypotheses `hne`, `hsep` are not needed.  The
original statement without `hstable` is false (see the comment above). -/
theorem C11_name_join_partial (segs : List (List Char)) (hstable : ∀ s ∈ segs, CaseConv.SepStable s) :
    CaseConv.decodeGoTags (CaseConv.joinWith '_' segs) =
      some (segs.flatMap fun s => (CaseConv.decodeGoTags s).getD []) := by
  rcases List.eq_nil_or_concat segs with rfl | ⟨init, last, rfl⟩
  · rfl
  · rw [List.concat_eq_append] at hstable ⊢
    rw [C11_name_join_general, List.flatMap_append]
    simp only [List.flatMap_def]
    rw [List.map_congr_left (fun s hs => congrArg (Option.getD · []) (hstable s (List.mem_append_left _ hs)))]
    simp

/-- syntactic classes of separator-stable segments -/
theorem C11_sep_stable_classes (s : List Char) :
    (CaseConv.isWord s = true → CaseConv.SepStable s) ∧
    ((∀ c ∈ s, isUpperA c = false ∧ c ≠ '_' ∧ c ≠ '-') → (∃ c ∈ s, isLowerA c = true) → CaseConv.SepStable s) ∧
    (s ≠ [] → s.all isUpperA = true → CaseConv.SepStable s) ∧
    (∀ c d tl, s = c :: d :: tl → isUpperA c = true → isLowerA d = true →
      (∀ x ∈ tl, isUpperA x = false ∧ x ≠ '_' ∧ x ≠ '-') → CaseConv.SepStable s) := by
  refine ⟨CaseConv.sepStable_word, ?_, CaseConv.sepStable_upper s, ?_⟩
  · intro h hl
    exact CaseConv.sepStable_plain s (fun c hc => ⟨(h c hc).1, by simp [(h c hc).2.1, (h c hc).2.2]⟩) hl
  · rintro c d tl rfl hc hd htl
    exact CaseConv.sepStable_cap c d tl hc hd
      (fun x hx => ⟨(htl x hx).1, by simp [(htl x hx).2.1, (htl x hx).2.2]⟩)

/-- The env chain's main case: joining lower-case words `[a-z][a-z0-9]*` (what `DecodeGoCamelCase`
produces from field names) and decoding the join gives back exactly the words. -/
theorem C11_name_join_words (ws : List (List Char)) (h : ∀ w ∈ ws, CaseConv.isWord w = true) :
    CaseConv.decodeGoTags (CaseConv.joinWith '_' ws) = some ws := by
  rw [C11_name_join_partial ws (fun w hw => CaseConv.sepStable_word (h w hw))]
  congr 1
  induction ws with
  | nil => rfl
  | cons w ws ih =>
    rw [List.flatMap_cons, ih (fun v hv => h v (List.mem_cons_of_mem _ hv)), CaseConv.decodeGoTags_eq,
      CaseConv.goTagWords_word (h w List.mem_cons_self)]
    rfl

/-- the counterexamples to the original `C11_name_join` (hypotheses `hne`, `hsep` hold for them) -/
theorem C11_name_join_counterexamples :
    CaseConv.decodeGoTags "URLs_abc".toList = some ["ur".toList, "ls".toList, "abc".toList] ∧
    CaseConv.decodeGoTags "URLs".toList = some ["urls".toList] ∧
    CaseConv.decodeGoTags "HTTPa_abc".toList = some ["htt".toList, "pa".toList, "abc".toList] ∧
    CaseConv.decodeGoTags "HTTPa".toList = some ["httpa".toList] ∧
    CaseConv.decodeGoTags "x9Y_abc".toList = some ["x9y".toList, "abc".toList] ∧
    CaseConv.decodeGoTags "x9Y".toList = some ["y".toList] ∧
    CaseConv.decodeGoTags "ID1_abc".toList = some ["id".toList, "1".toList, "abc".toList] ∧
    CaseConv.decodeGoTags "ID1".toList = some ["id1".toList] ∧
    CaseConv.decodeGoTags "abc".toList = some ["abc".toList] := by
  decide

/-- the original `C11_name_join` is refuted by `["URLs", "abc"]` -/
theorem C11_name_join_original_false :
    ¬ (∀ (segs : List (List Char)) (_ : ∀ s ∈ segs, s ≠ [])
        (_ : ∀ s ∈ segs, ∀ c ∈ s, c ≠ '_' ∧ c ≠ '-'),
        CaseConv.decodeGoTags (CaseConv.joinWith '_' segs) =
          some (segs.flatMap fun s => (CaseConv.decodeGoTags s).getD [])) := by
  intro H
  exact absurd (H ["URLs".toList, "abc".toList] (by decide) (by decide)) (by decide)

/-- The UPPER_SNAKE encoding of non-empty words contains exactly one underscore between consecutive
words, and decodes back to them (so distinct word lists give distinct variable names). -/
theorem C11_upper_snake_injective (ws1 ws2 : CaseConv.Words)
    (h1 : ws1 ≠ [] ∧ ∀ w ∈ ws1, CaseConv.isWord w = true) (h2 : ws2 ≠ [] ∧ ∀ w ∈ ws2, CaseConv.isWord w = true)
    (heq : CaseConv.encodeUpperSnake ws1 = CaseConv.encodeUpperSnake ws2) : ws1 = ws2 := by
  have r1 := C19.C19_roundtrip CaseConv.Scheme.upperSnake ws1 h1.1 h1.2
  have r2 := C19.C19_roundtrip CaseConv.Scheme.upperSnake ws2 h2.1 h2.2
  simp only [CaseConv.Scheme.encode, CaseConv.Scheme.decode] at r1 r2
  rw [heq, r2] at r1
  injection r1 with r1
  exact r1.symm

/-- regenerated chain (F12a) of the env source -/
theorem C11_chain_fact : Facts.chainEnv =
    [["alias", "dials", "dialsenv"], ["flatten", "dials", "EncodeUpperCamelCase", "EncodeCasePreservingSnakeCase"],
     ["reformat", "dials", "DecodeGoTags", "EncodeUpperSnakeCase"], ["copy", "dials", "dialsenv"], ["stringcast"]] := by
  rfl

/-! ## The end-to-end value statement: what `envValue` returns for an ARBITRARY environment

Vocabulary (Lemmas/EnvValue.lean): `envChain` — the env source's chain `[alias, flatten, tag reformat,
tag copy, string cast]` (`C10_env_chain_is_shipped`: the shipped one); `EnvLayers … fs fs1 fs2 fs3 fs4 tfs`
— the field lists between its layers (`fs1` after alias, `fs2` the flattened leaves, `fs4` the fields
entering string cast: the leaves with their final tags, `tfs` the translated fields; they exist
whenever TranslateType succeeds: `EnvLayers.of_translate`); `envKey pfx f` — the variable consulted for
a field (`C11_prefix`); `envFill` — pointer to the variable's text, or unset; `envLeaf` — the parsed
leaf value or the parse failure; `EnvTy tags t` — the condition on a config field's type: below it
(through pointers and struct fields) no field carries an alias tag, no leaf is a slice / array of
structs (such leaves are not string-castable; tag reformat / tag copy would recurse into them), every
struct sits behind a pointer (Pointerify); `aliasPick` — `aliasUnmangle` on the values. -/

/-- The translated value handed to ReverseTranslate is, field by field, a pointer to the text of the
field's variable if it is present and unset otherwise (every translated field having a non-empty
`dialsenv` tag). -/
theorem C11_env_fill (fuel : Nat) (chain : List Mangler) (pfx : String) (fs tfs : List FT)
    (lookup : String → Option String) (ht : translate fuel chain fs = .ok tfs)
    (htags : ∀ f ∈ tfs, ∃ name, tagGet f.1.tags "dialsenv" = some name ∧ name ≠ "") :
    envValue fuel chain pfx fs lookup = reverse fuel chain fs (envFill pfx lookup tfs) :=
  envValue_fill fuel chain pfx fs tfs lookup ht htags

/-- `envFill`, spelled out: present with text `txt` ↦ `.ptr (.s txt)`, absent ↦ `.nilv` -/
theorem C11_env_fill_spec (pfx : String) (lookup : String → Option String) (f : FT) :
    (∀ txt, lookup (envKey pfx f) = some txt → envFillOne pfx lookup f = .ptr (.s txt)) ∧
    (lookup (envKey pfx f) = none → envFillOne pfx lookup f = .nilv) := by
  constructor
  · intro txt h; simp only [envFillOne, h]
  · intro h; simp only [envFillOne, h]

/-- the value of a leaf: unset if its variable is absent, else what `parse` makes of the variable's
text at the leaf's cast type (boxed for a pointer-to-collection leaf); total version of `envLeaf` for
stating the success case -/
def leafVal (pfx : String) (lookup : String → Option String) (parse : String → Ty → Outcome Val) (f : FT) : Val :=
  match envLeaf pfx lookup parse f with
  | .ok v => v
  | _ => .nilv

theorem C11_leafVal_spec (pfx : String) (lookup : String → Option String) (parse : String → Ty → Outcome Val)
    (f : FT) :
    (lookup (envKey pfx f) = none → leafVal pfx lookup parse f = .nilv) ∧
    (∀ txt u, lookup (envKey pfx f) = some txt → parse txt (scCastTo f.2) = .ok u →
      leafVal pfx lookup parse f = if scBoxed f.2 then .ptr u else u) := by
  constructor
  · intro h; simp only [leafVal, envLeaf, h]
  · intro txt u h hp; simp only [leafVal, envLeaf, h, hp]

/-- if every present variable parses, the leaf values are `leafVal` -/
theorem leaves_ok (pfx : String) (lookup : String → Option String) (parse : String → Ty → Outcome Val)
    (fs4 : List FT)
    (hparse : ∀ f ∈ fs4, ∀ txt, lookup (envKey pfx f) = some txt → ∃ u, parse txt (scCastTo f.2) = .ok u) :
    mapM' (envLeaf pfx lookup parse) fs4 = .ok (fs4.map (leafVal pfx lookup parse)) := by
  apply mapM'_ok_of_forall
  intro f hf
  simp only [leafVal, envLeaf]
  cases hl : lookup (envKey pfx f) with
  | none => rfl
  | some txt =>
    obtain ⟨u, hu⟩ := hparse f hf txt hl
    simp only [hu]

/-- GENERAL FORM (top-level aliases allowed; Tier 2 for top-level fields).  For field types satisfying
`EnvTy` (nothing aliased below the top level), enough flatten fuel, leaves with an element type and
non-empty `dialsenv` tags: the result of the environment source is determined by the leaf values
`envLeaf` — each leaf's OWN variable, parsed at the leaf's cast type:
* if a leaf fails (`.err` / `.panic` of `parse` on a present variable; the first one in field order),
  that failure is the result: never a zero or truncated value;
* otherwise flatten populates every field of `fs1` from its own group of leaves — `w1`, whose leaves read
  back (`flatLeaves`) are exactly the leaf values, a struct being allocated exactly when one of its
  leaves is set — and every top-level field gets the value of its translated field, or, if it carries
  an alias tag, `aliasPick` of the values of its primary and alias copies (`C11_alias_pick`). -/
theorem C11_env_values_general (tags : List String) (cfg : FlattenCfg) (fuelF fuel : Nat) (tag : String)
    (dec : List Char → Option (List (List Char))) (enc : CaseConv.Scheme) (src new : String)
    (parse : String → Ty → Outcome Val) (pfx : String) (lookup : String → Option String)
    (fs fs1 fs2 fs3 fs4 tfs : List FT)
    (L : EnvLayers tags cfg fuelF fuel tag dec enc src new parse fs fs1 fs2 fs3 fs4 tfs)
    (hty : ∀ f ∈ fs, EnvTy tags f.2) (hsz : ∀ f ∈ fs, tySize f.2 < fuelF)
    (hel : ∀ f ∈ fs2, hasElemTy f.2 = true)
    (htags : ∀ f ∈ tfs, ∃ name, tagGet f.1.tags "dialsenv" = some name ∧ name ≠ "") :
    (∀ c, mapM' (envLeaf pfx lookup parse) fs4 = .err c →
      envValue fuel (envChain tags cfg fuelF tag dec enc src new parse) pfx fs lookup = .err c) ∧
    (∀ c, mapM' (envLeaf pfx lookup parse) fs4 = .panic c →
      envValue fuel (envChain tags cfg fuelF tag dec enc src new parse) pfx fs lookup = .panic c) ∧
    (∀ lv, mapM' (envLeaf pfx lookup parse) fs4 = .ok lv →
      ∃ w1, ((fs1.zip w1).map fun p => flatLeaves fuelF p.1.2 p.2).flatten = lv ∧
        All2 (fun o w => (flatLeaves fuelF o.2 w).length = leafN o.2 ∧
          ((∀ x ∈ flatLeaves fuelF o.2 w, x = Val.nilv) ↔ w = .nilv)) fs1 w1 ∧
        envValue fuel (envChain tags cfg fuelF tag dec enc src new parse) pfx fs lookup =
          mapM' (fun (p : FT × List Val) => aliasPick p.1.1 p.1.2 p.2)
            (fs.zip (splitCounts (fs.map (aliasCount tags)) w1))) := by
  rw [envValue_envChain L hty hsz hel htags]
  refine ⟨fun c hc => by rw [hc]; rfl, fun c hc => by rw [hc]; rfl, fun lv hlv => ?_⟩
  obtain ⟨w1, hw, hfl, hg⟩ := L.pop hty hsz lv (mapM'_length hlv)
  refine ⟨w1, hfl, ?_, by rw [hlv, Outcome.bind, hw]; rfl⟩
  apply All2.of_mem (All2.length hg)
  intro o w hmem
  exact flattenGood_spec ((L.facts hty hsz).1 o (List.of_mem_zip hmem).1).1 (All2.mem hg o w hmem)

/-- `aliasPick` on a nil-able (pointerified) field: a single translated field passes its value; of
primary and alias, the set one wins; both set is the error "both alias and original set". -/
theorem C11_alias_pick (h : Hdr) (t : Ty) (ht : isNilableTy t = true) (v vp va : Val) :
    aliasPick h t [v] = .ok v ∧
    (vp.isNil = false → va.isNil = true → aliasPick h t [vp, va] = .ok vp) ∧
    (vp.isNil = true → va.isNil = false → aliasPick h t [vp, va] = .ok va) ∧
    (vp.isNil = true → va.isNil = true → aliasPick h t [vp, va] = .ok vp) ∧
    (vp.isNil = false → va.isNil = false →
      aliasPick h t [vp, va] = .err ("both alias and original set for field " ++ h.name)) := by
  have hp := alias_patterns_of_eq (fun c => c) h t (h, t) (h, t) vp va (aliasPick h t [vp, va]) (mapOut_id _).symm
  simp only [isUnsetAt_nilable ht] at hp
  exact ⟨rfl, hp⟩

/-- "carries no alias tag" in terms of the tags: no `<tag>alias` key for any tag of the alias mangler -/
theorem C11_not_aliased_iff (tags : List String) (h : Hdr) :
    isAliased tags h = false ↔ ∀ tag ∈ tags, tagGet h.tags (tag ++ "alias") = none :=
  isAliased_eq_false_iff tags h

/-- ERROR CHARACTERISATION.  If some present variable's text does not parse at its leaf's cast type
(`parse txt (scCastTo t) = .err c`), the environment source never returns a value (no zero or truncated
value is stored); it returns an error, provided `parse` panics on no present variable (if it does, the
first failure in field order decides between `.err` and `.panic`: `C11_env_values_general`). -/
theorem C11_env_error (tags : List String) (cfg : FlattenCfg) (fuelF fuel : Nat) (tag : String)
    (dec : List Char → Option (List (List Char))) (enc : CaseConv.Scheme) (src new : String)
    (parse : String → Ty → Outcome Val) (pfx : String) (lookup : String → Option String)
    (fs fs1 fs2 fs3 fs4 tfs : List FT)
    (L : EnvLayers tags cfg fuelF fuel tag dec enc src new parse fs fs1 fs2 fs3 fs4 tfs)
    (hty : ∀ f ∈ fs, EnvTy tags f.2) (hsz : ∀ f ∈ fs, tySize f.2 < fuelF)
    (hel : ∀ f ∈ fs2, hasElemTy f.2 = true)
    (htags : ∀ f ∈ tfs, ∃ name, tagGet f.1.tags "dialsenv" = some name ∧ name ≠ "")
    (hbad : ∃ f ∈ fs4, ∃ txt c, lookup (envKey pfx f) = some txt ∧ parse txt (scCastTo f.2) = .err c) :
    (∀ vs, envValue fuel (envChain tags cfg fuelF tag dec enc src new parse) pfx fs lookup ≠ .ok vs) ∧
    ((∀ f ∈ fs4, ∀ txt c, lookup (envKey pfx f) = some txt → parse txt (scCastTo f.2) ≠ .panic c) →
      ∃ c, envValue fuel (envChain tags cfg fuelF tag dec enc src new parse) pfx fs lookup = .err c) := by
  obtain ⟨he, hp, _⟩ := C11_env_values_general tags cfg fuelF fuel tag dec enc src new parse pfx lookup
    fs fs1 fs2 fs3 fs4 tfs L hty hsz hel htags
  obtain ⟨f, hf, txt, c, hl, hpe⟩ := hbad
  have hfe : envLeaf pfx lookup parse f = .err c := by simp only [envLeaf, hl, hpe]
  constructor
  · intro vs hvs
    cases hm : mapM' (envLeaf pfx lookup parse) fs4 with
    | ok lv =>
      obtain ⟨b, hb⟩ := mapM'_mem_ok hm f hf
      rw [hfe] at hb
      cases hb
    | err c' => rw [he c' hm] at hvs; cases hvs
    | panic c' => rw [hp c' hm] at hvs; cases hvs
  · intro hnp
    have hnp' : ∀ g ∈ fs4, ∀ c', envLeaf pfx lookup parse g ≠ .panic c' := by
      intro g hg c' hc'
      unfold envLeaf at hc'
      split at hc'
      · cases hc'
      · rename_i txt hl
        split at hc'
        · cases hc'
        · cases hc'
        · rename_i c'' hpg
          exact hnp g hg txt c'' hl hpg
    obtain ⟨c', hc'⟩ := mapM'_err hnp' ⟨f, hf, c, hfe⟩
    exact ⟨c', he c' hc'⟩

/-- SUCCESS CHARACTERISATION WITH TOP-LEVEL ALIASES (Tier 2 for top-level fields: a top-level field of
any `EnvTy` type — leaf or nested struct — may carry an alias tag; nothing below the top level does).
If every present variable parses, then with the leaf values `leafVal` (absent ↦ unset, present ↦ the
parsed value of the leaf's own variable) there are values `w1` of the alias-translated fields `fs1` —
each populated from its own leaves, allocated exactly when one of them is set — such that every
top-level field gets its translated field's value or, if aliased, `aliasPick` of its primary's and its
alias copy's values: the set one, the primary's if neither is, and the error "both alias and original
set" if both are (`C11_alias_pick`). -/
theorem C11_env_values_alias (tags : List String) (cfg : FlattenCfg) (fuelF fuel : Nat) (tag : String)
    (dec : List Char → Option (List (List Char))) (enc : CaseConv.Scheme) (src new : String)
    (parse : String → Ty → Outcome Val) (pfx : String) (lookup : String → Option String)
    (fs fs1 fs2 fs3 fs4 tfs : List FT)
    (L : EnvLayers tags cfg fuelF fuel tag dec enc src new parse fs fs1 fs2 fs3 fs4 tfs)
    (hty : ∀ f ∈ fs, EnvTy tags f.2) (hsz : ∀ f ∈ fs, tySize f.2 < fuelF)
    (hel : ∀ f ∈ fs2, hasElemTy f.2 = true)
    (htags : ∀ f ∈ tfs, ∃ name, tagGet f.1.tags "dialsenv" = some name ∧ name ≠ "")
    (hparse : ∀ f ∈ fs4, ∀ txt, lookup (envKey pfx f) = some txt → ∃ u, parse txt (scCastTo f.2) = .ok u) :
    ∃ w1, ((fs1.zip w1).map fun p => flatLeaves fuelF p.1.2 p.2).flatten = fs4.map (leafVal pfx lookup parse) ∧
      All2 (fun o w => (flatLeaves fuelF o.2 w).length = leafN o.2 ∧
        ((∀ x ∈ flatLeaves fuelF o.2 w, x = Val.nilv) ↔ w = .nilv)) fs1 w1 ∧
      envValue fuel (envChain tags cfg fuelF tag dec enc src new parse) pfx fs lookup =
        mapM' (fun (p : FT × List Val) => aliasPick p.1.1 p.1.2 p.2)
          (fs.zip (splitCounts (fs.map (aliasCount tags)) w1)) :=
  (C11_env_values_general tags cfg fuelF fuel tag dec enc src new parse pfx lookup
    fs fs1 fs2 fs3 fs4 tfs L hty hsz hel htags).2.2 _ (leaves_ok pfx lookup parse fs4 hparse)

/-- MAIN THEOREM (Tier 1: no alias tags, at any depth — `hna` for the top-level fields, `EnvTy` below
them; the alias layer is then the identity: `fs1 = fs`).  For config field types with every struct
behind a pointer (`EnvTy`), enough flatten fuel (`hsz`), leaves with an element type (`hel`: what
Pointerify produces) and non-empty `dialsenv` tags on the translated fields (`htags`): if every PRESENT
variable parses at its leaf's cast type, the environment source succeeds with values `vs` whose
flattened leaves, field by field in flatten order, are exactly the leaf values `leafVal` — each leaf
holds the parsed value of ITS OWN variable (boxed for a pointer-to-collection leaf), every leaf whose
variable is absent is unset, whatever else is in the environment —, and a top-level value (hence, by
`flatLeaves`, every intermediate struct) is allocated exactly when one of its leaves is set. -/
theorem C11_env_values (tags : List String) (cfg : FlattenCfg) (fuelF fuel : Nat) (tag : String)
    (dec : List Char → Option (List (List Char))) (enc : CaseConv.Scheme) (src new : String)
    (parse : String → Ty → Outcome Val) (pfx : String) (lookup : String → Option String)
    (fs fs1 fs2 fs3 fs4 tfs : List FT)
    (L : EnvLayers tags cfg fuelF fuel tag dec enc src new parse fs fs1 fs2 fs3 fs4 tfs)
    (hna : ∀ f ∈ fs, isAliased tags f.1 = false)
    (hty : ∀ f ∈ fs, EnvTy tags f.2) (hsz : ∀ f ∈ fs, tySize f.2 < fuelF)
    (hel : ∀ f ∈ fs2, hasElemTy f.2 = true)
    (htags : ∀ f ∈ tfs, ∃ name, tagGet f.1.tags "dialsenv" = some name ∧ name ≠ "")
    (hparse : ∀ f ∈ fs4, ∀ txt, lookup (envKey pfx f) = some txt → ∃ u, parse txt (scCastTo f.2) = .ok u) :
    fs1 = fs ∧
    ∃ vs, envValue fuel (envChain tags cfg fuelF tag dec enc src new parse) pfx fs lookup = .ok vs ∧
      ((fs.zip vs).map fun p => flatLeaves fuelF p.1.2 p.2).flatten = fs4.map (leafVal pfx lookup parse) ∧
      All2 (fun f v => (flatLeaves fuelF f.2 v).length = leafN f.2 ∧
        ((∀ x ∈ flatLeaves fuelF f.2 v, x = Val.nilv) ↔ v = .nilv)) fs vs := by
  have e1 : fs1 = fs := (alias_rec_id tags fuel).1 fs fs1 L.h1 (fun f hf => ⟨hna f hf, hty f hf⟩)
  obtain ⟨w1, hfl, hall, hr⟩ := C11_env_values_alias tags cfg fuelF fuel tag dec enc src new parse pfx lookup
    fs fs1 fs2 fs3 fs4 tfs L hty hsz hel htags hparse
  subst e1
  refine ⟨rfl, w1, ?_, hfl, hall⟩
  rw [hr]
  have hc : fs1.map (aliasCount tags) = List.replicate fs1.length 1 := by
    rw [List.eq_replicate_iff]
    refine ⟨by simp, ?_⟩
    intro b hb
    obtain ⟨f, hf, rfl⟩ := List.mem_map.1 hb
    simp [aliasCount, hna f hf]
  rw [hc, splitCounts_ones fs1.length w1 (All2.length hall), List.zip_map_right, mapM'_map]
  exact mapM'_zip_snd fs1 w1 (All2.length hall)

/-! ### Non-vacuity: a concrete nested type, concrete environments, concrete results -/
namespace Ex
def tInt : Ty := .ptr (.basic (.int .int) false)
def tStr : Ty := .ptr (.basic .str false)
/-- `struct { Srv *struct { Port *int; Name *string }; Dbg *string }` (pointerified) -/
def inner : Fields := .cons "Port" [] false tInt (.cons "Name" [] false tStr .nil)
def fs : List FT := [(⟨"Srv", [], false⟩, .ptr (.struct inner)), (⟨"Dbg", [], false⟩, tStr)]
/-- the same with an env alias on the top-level field `Dbg` -/
def fsA : List FT :=
  [(⟨"Srv", [], false⟩, .ptr (.struct inner)), (⟨"Dbg", [("dialsenvalias", "VERBOSE")], false⟩, tStr)]
/-- parse.String (model) without scanner tokens: scalars only -/
def parse : String → Ty → Outcome Val := parseString (fun _ => ([], []))
def getOk (o : Outcome (List FT)) : List FT := match o with | .ok l => l | _ => []
def tags : List String := ["dials", "dialsenv"]
def cfg : FlattenCfg := ⟨"dials", .upperCamel, .casePreservingSnake⟩
abbrev m1 := aliasMangler tags
abbrev m2 := flattenMangler cfg 20
abbrev m3 := tagReformatMangler "dials" CaseConv.decodeGoTags .upperSnake
abbrev m4 := tagCopyMangler "dials" "dialsenv"
abbrev m5 := stringCastMangler parse
/-- the shipped env chain (`C10_env_chain_is_shipped`) -/
def chain : List Mangler :=
  envChain tags cfg 20 "dials" CaseConv.decodeGoTags .upperSnake "dials" "dialsenv" parse
def fs1 := getOk (mangleLayer 10 m1 fs)
def fs2 := getOk (mangleLayer 10 m2 fs1)
def fs3 := getOk (mangleLayer 10 m3 fs2)
def fs4 := getOk (mangleLayer 10 m4 fs3)
def tfs := getOk (mangleLayer 10 m5 fs4)
/-- one variable present, the others absent -/
def env1 : String → Option String := fun n => if n = "APP_SRV_PORT" then some "8080" else none
/-- an unparsable value -/
def env2 : String → Option String := fun n => if n = "APP_SRV_PORT" then some "80x" else none

-- deciding the closed facts below compares field types
deriving instance DecidableEq for Ty, Fields

/-- the closed facts about the five layers, by ONE evaluation of the layers (each fact on its own would run
them again): the layers; the hypotheses `hel`, `htags` of the value theorems and the types
after the alias layer; every leaf's variable and type under `env1` and `env2`, that `parse` panics on no
variable of `env2`, the variables consulted -/
theorem closed :
    (mangleLayer 10 m1 fs = .ok fs1 ∧ mangleLayer 10 m2 fs1 = .ok fs2 ∧ mangleLayer 10 m3 fs2 = .ok fs3 ∧
      mangleLayer 10 m4 fs3 = .ok fs4 ∧ mangleLayer 10 m5 fs4 = .ok tfs) ∧
    ((∀ f ∈ fs2, hasElemTy f.2 = true) ∧
      (∀ f ∈ tfs, ∃ name, tagGet f.1.tags "dialsenv" = some name ∧ name ≠ "") ∧
      fs1.map (·.2) = [.ptr (.struct inner), tStr]) ∧
    fs4.map (fun f => (env1 (envKey "APP" f), f.2)) = [(some "8080", tInt), (none, tStr), (none, tStr)] ∧
    fs4.map (fun f => (env2 (envKey "APP" f), f.2)) = [(some "80x", tInt), (none, tStr), (none, tStr)] ∧
    (∀ f ∈ fs4, ∀ txt, env2 (envKey "APP" f) = some txt → (parse txt (scCastTo f.2)).isPanic = false) ∧
    envNames 10 chain "APP" fs = .ok ["APP_SRV_PORT", "APP_SRV_NAME", "APP_DBG"] := by
  decide

theorem layers : EnvLayers tags cfg 20 10 "dials" CaseConv.decodeGoTags .upperSnake "dials" "dialsenv" parse
    fs fs1 fs2 fs3 fs4 tfs :=
  ⟨closed.1.1, closed.1.2.1, closed.1.2.2.1, closed.1.2.2.2.1, closed.1.2.2.2.2⟩

/-- the variables consulted -/
example : envNames 10 chain "APP" fs = .ok ["APP_SRV_PORT", "APP_SRV_NAME", "APP_DBG"] := closed.2.2.2.2.2

/-! the hypotheses of `C11_env_values` / `C11_env_error` hold for this type -/
theorem hna : ∀ f ∈ fs, isAliased tags f.1 = false := by decide
theorem hty : ∀ f ∈ fs, EnvTy tags f.2 := by
  intro f hf
  simp only [fs, List.mem_cons, List.not_mem_nil, or_false] at hf
  rcases hf with rfl | rfl <;> exact ⟨by decide, by decide⟩
theorem hsz : ∀ f ∈ fs, tySize f.2 < 20 := by decide
theorem hel : ∀ f ∈ fs2, hasElemTy f.2 = true := closed.2.1.1
theorem htags : ∀ f ∈ tfs, ∃ name, tagGet f.1.tags "dialsenv" = some name ∧ name ≠ "" := closed.2.1.2.1

/-- the leaves: variable looked up, leaf type -/
theorem leaves1 : fs4.map (fun f => (env1 (envKey "APP" f), f.2)) =
    [(some "8080", tInt), (none, tStr), (none, tStr)] := closed.2.2.1
theorem leaves2 : fs4.map (fun f => (env2 (envKey "APP" f), f.2)) =
    [(some "80x", tInt), (none, tStr), (none, tStr)] := closed.2.2.2.1

/-- the leaf values under `env1` -/
theorem leafVals1 : mapM' (envLeaf "APP" env1 parse) fs4 = .ok [.ptr (.i 8080), .nilv, .nilv] := by
  rw [mapM'_envLeaf, leaves1]
  rfl

theorem hparse1 : ∀ f ∈ fs4, ∀ txt, env1 (envKey "APP" f) = some txt → ∃ u, parse txt (scCastTo f.2) = .ok u :=
  parses_of_envLeaf_ok leafVals1

/-- CONCRETE RESULT, success: `APP_SRV_PORT=8080` and nothing else ⇒ `Srv = &{Port: &8080, Name: nil}`,
`Dbg = nil` -/
theorem ex_ok : envValue 10 chain "APP" fs env1 = .ok [.ptr (.struct [.ptr (.i 8080), .nilv]), .nilv] := by
  have h2 : popLayer 20 [.ptr (.struct inner), tStr] [.ptr (.i 8080), .nilv, .nilv] =
      .ok [.ptr (.struct [.ptr (.i 8080), .nilv]), .nilv] := by
    simp [popLayer, mapM', popUn, populate, populate.fields, stripPtrs, ptrDepth, Fields.toList, Val.isNil, wrapPtrs,
      inner, tInt, tStr, leafN, leafNs, splitCounts]
  rw [chain, envValue_envChain layers hty hsz hel htags, leafVals1, closed.2.1.2.2, Outcome.bind, h2]
  rfl

/-- CONCRETE RESULT, error: `APP_SRV_PORT=80x` is an error (strconv's syntax error), not a zero value -/
theorem ex_err : envValue 10 chain "APP" fs env2 = .err "number" := by
  rw [chain, envValue_envChain layers hty hsz hel htags, mapM'_envLeaf, leaves2]
  rfl

/-- `C11_env_values` applies: all its hypotheses hold here (and its conclusion agrees with `ex_ok`) -/
example : ∃ vs, envValue 10 chain "APP" fs env1 = .ok vs ∧
    ((fs.zip vs).map fun p => flatLeaves 20 p.1.2 p.2).flatten = fs4.map (leafVal "APP" env1 parse) ∧
    fs4.map (leafVal "APP" env1 parse) = [.ptr (.i 8080), .nilv, .nilv] := by
  obtain ⟨_, vs, h1, h2, _⟩ := C11_env_values tags cfg 20 10 "dials" CaseConv.decodeGoTags .upperSnake "dials" "dialsenv"
    parse "APP" env1 fs fs1 fs2 fs3 fs4 tfs layers hna hty hsz hel htags hparse1
  exact ⟨vs, h1, h2, Outcome.ok.inj ((leaves_ok "APP" env1 parse fs4 hparse1).symm.trans leafVals1)⟩

/-- `C11_env_error` applies to the unparsable value -/
example : ∃ c, envValue 10 chain "APP" fs env2 = .err c := by
  obtain ⟨f, r, e, hf, _⟩ := List.map_eq_cons_iff.1 leaves2
  have hbad : ∃ f ∈ fs4, ∃ txt c, env2 (envKey "APP" f) = some txt ∧ parse txt (scCastTo f.2) = .err c :=
    ⟨f, e ▸ List.mem_cons_self, "80x", "number", (Prod.mk.inj hf).1, (Prod.mk.inj hf).2 ▸ rfl⟩
  refine (C11_env_error tags cfg 20 10 "dials" CaseConv.decodeGoTags .upperSnake "dials" "dialsenv"
    parse "APP" env2 fs fs1 fs2 fs3 fs4 tfs layers hty hsz hel htags hbad).2 ?_
  intro f hf txt c hl hp
  have := closed.2.2.2.2.1 f hf txt hl
  rw [hp] at this
  cases this

/-! #### a top-level alias: `Dbg *string` with `dialsenvalias:"VERBOSE"` -/
def fsA1 := getOk (mangleLayer 10 m1 fsA)
def fsA2 := getOk (mangleLayer 10 m2 fsA1)
def fsA3 := getOk (mangleLayer 10 m3 fsA2)
def fsA4 := getOk (mangleLayer 10 m4 fsA3)
def tfsA := getOk (mangleLayer 10 m5 fsA4)
/-- only the alias variable is present -/
def envA1 : String → Option String := fun n => if n = "APP_VERBOSE" then some "yes" else none
/-- primary and alias variable are both present -/
def envA2 : String → Option String := fun n => if n = "APP_VERBOSE" ∨ n = "APP_DBG" then some "yes" else none

/-- as `closed`, for the aliased type: the alias-translated fields are `Srv`, `Dbg`, `Dbg_alias…` -/
theorem closedA :
    (mangleLayer 10 m1 fsA = .ok fsA1 ∧ mangleLayer 10 m2 fsA1 = .ok fsA2 ∧ mangleLayer 10 m3 fsA2 = .ok fsA3 ∧
      mangleLayer 10 m4 fsA3 = .ok fsA4 ∧ mangleLayer 10 m5 fsA4 = .ok tfsA) ∧
    ((∀ f ∈ fsA2, hasElemTy f.2 = true) ∧
      (∀ f ∈ tfsA, ∃ name, tagGet f.1.tags "dialsenv" = some name ∧ name ≠ "") ∧
      fsA1.map (·.2) = [.ptr (.struct inner), tStr, tStr]) ∧
    fsA4.map (fun f => (envA1 (envKey "APP" f), f.2)) =
      [(none, tInt), (none, tStr), (none, tStr), (some "yes", tStr)] ∧
    fsA4.map (fun f => (envA2 (envKey "APP" f), f.2)) =
      [(none, tInt), (none, tStr), (some "yes", tStr), (some "yes", tStr)] ∧
    envNames 10 chain "APP" fsA = .ok ["APP_SRV_PORT", "APP_SRV_NAME", "APP_DBG", "APP_VERBOSE"] := by
  decide +kernel

theorem layersA : EnvLayers tags cfg 20 10 "dials" CaseConv.decodeGoTags .upperSnake "dials" "dialsenv" parse
    fsA fsA1 fsA2 fsA3 fsA4 tfsA :=
  ⟨closedA.1.1, closedA.1.2.1, closedA.1.2.2.1, closedA.1.2.2.2.1, closedA.1.2.2.2.2⟩

/-- the alias copy answers to the alias name only -/
example : envNames 10 chain "APP" fsA = .ok ["APP_SRV_PORT", "APP_SRV_NAME", "APP_DBG", "APP_VERBOSE"] :=
  closedA.2.2.2.2

/-- the type hypotheses of `C11_env_values_alias` / `C11_env_values_general` hold for the aliased type -/
theorem htyA : ∀ f ∈ fsA, EnvTy tags f.2 := by
  intro f hf
  simp only [fsA, List.mem_cons, List.not_mem_nil, or_false] at hf
  rcases hf with rfl | rfl <;> exact ⟨by decide, by decide⟩
theorem hszA : ∀ f ∈ fsA, tySize f.2 < 20 := by decide
theorem helA : ∀ f ∈ fsA2, hasElemTy f.2 = true := closedA.2.1.1
theorem htagsA : ∀ f ∈ tfsA, ∃ name, tagGet f.1.tags "dialsenv" = some name ∧ name ≠ "" := closedA.2.1.2.1

/-- the flatten stage on the alias-translated fields: nothing is set below `Srv` -/
theorem popA (c d : Val) :
    popLayer 20 [.ptr (.struct inner), tStr, tStr] [.nilv, .nilv, c, d] = .ok [.nilv, c, d] := by
  simp [popLayer, mapM', popUn, populate, populate.fields, stripPtrs, Fields.toList, Val.isNil, inner, tInt, tStr,
    leafN, leafNs, splitCounts]

/-- CONCRETE RESULT: the alias variable alone sets the field -/
theorem exA_alias_only : envValue 10 chain "APP" fsA envA1 = .ok [.nilv, .ptr (.s "yes")] := by
  rw [chain, envValue_envChain layersA htyA hszA helA htagsA, mapM'_envLeaf, closedA.2.2.1, closedA.2.1.2.2]
  show (popLayer 20 _ [.nilv, .nilv, .nilv, .ptr (.s "yes")]).bind _ = _
  rw [popA]
  rfl

/-- CONCRETE RESULT: primary and alias variable both present is an error -/
theorem exA_both : envValue 10 chain "APP" fsA envA2 = .err "both alias and original set for field Dbg" := by
  -- `rfl` below meets the error text as the model builds it, a concatenation
  have hmsg : "both alias and original set for field " ++ "Dbg" = "both alias and original set for field Dbg" := by
    decide
  rw [chain, envValue_envChain layersA htyA hszA helA htagsA, mapM'_envLeaf, closedA.2.2.2.1, closedA.2.1.2.2, ← hmsg]
  show (popLayer 20 _ [.nilv, .nilv, .ptr (.s "yes"), .ptr (.s "yes")]).bind _ = _
  rw [popA]
  rfl

/-- `C11_env_values_general` applies to the aliased type (any environment): a result is never `.ok`
unless every present variable parses -/
example (lookup : String → Option String) (c : String)
    (h : mapM' (envLeaf "APP" lookup parse) fsA4 = .err c) : envValue 10 chain "APP" fsA lookup = .err c :=
  (C11_env_values_general tags cfg 20 10 "dials" CaseConv.decodeGoTags .upperSnake "dials" "dialsenv"
    parse "APP" lookup fsA fsA1 fsA2 fsA3 fsA4 tfsA layersA htyA hszA helA htagsA).1 c h
end Ex
end Dials.C11
