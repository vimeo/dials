/-
C17 — Watched files: the view converges to the file's final content.

Model: Model/Watch.lean — one iteration of `watchLoop` (sources/file/file.go) as a pure function of the loop
state and of what the iteration read from the OS; a run is a fold over an ARBITRARY finite history of reads
(contents of any kind, missing file, open errors, any symlink resolution results, any Add/Remove results).
The theorems quantify over all such histories, hence over every interleaving of the watcher's reads with
the file operations of the property (in-place rewrite, rename-over, symlink swap, delete-and-recreate,
identical rewrite, malformed content): whatever the operations and pauses were, the watcher saw SOME
sequence of reads.

ASSUMED about the environment (PARTIAL, sampled by the harness only):
 * liveness of the OS/fsnotify side: some iteration runs after the last change and reads the final content
   completely (the convergence theorems are about "any run whose last iteration read the final content");
 * HMAC-SHA256 under the per-process key is injective (the checksum is modelled as the content);
 * the decoder is a function of the bytes it consumed and consumes the whole file; a failing read
   surfaces as a decode failure;
 * the window between the initial `Value` and `Watch`, and real goroutine / inotify release (observed by
   the harness through goroutine dumps and /proc/self/fdinfo), are outside the model.
-/
import DialsModel.Model.Watch
import DialsModel.Lemmas.Watch

namespace Dials.C17
open Dials Dials.Watch

variable {V : Type}

/-- The remembered checksum is backed by the value the consumer holds: if the loop remembers content `b`
then `cur` (the last reported value, or the initial `Value`) is the decoding of `b`. -/
def SumInv (dec : Bytes → Option V) (lastSum : Option Bytes) (cur : V) : Prop :=
  ∀ b, lastSum = some b → dec b = some cur

/-- **Checksum invariant.**  Over every finite history of reads: whenever the loop remembers a checksum, the
most recent reported value (or, if nothing was reported yet, the value of the initial `Value` call) is the
decoding of exactly that content.  It holds at the start when `Watch` follows a successful `Value`
(`lastSum = some b₀`, `v0 = decode b₀`) or a failed one (`lastSum = none`). -/
theorem C17_sum_invariant (dec : Bytes → Option V) (c : Cfg) (s : WState) (v0 : V) (rs : List IterRead)
    (h : SumInv dec s.lastSum v0) :
    SumInv dec (run dec c s rs).1.lastSum (lastReported v0 (run dec c s rs).2) := by
  induction rs generalizing s v0 with
  | nil => exact h
  | cons r rs ih =>
    rw [run_cons, lastReported_append]
    apply ih
    -- one pass preserves the invariant: it remembers a new content exactly when it reports its decoding
    intro b
    unfold lastReported
    simp only [iter_obs]
    cases r.val with
    | openErr ne sc => exact h b
    | content b' =>
      cases hd : dec b' with
      | none =>
        simp only [lastDecoded, hd]
        exact h b
      | some v =>
        simp only [lastDecoded, hd, Option.isSome_some, if_true, Option.some.injEq]
        rintro rfl
        by_cases hs : s.lastSum = some b'
        · simpa [hs] using h b' hs
        · simpa [hs] using hd

/-- The remembered checksum is exactly the content of the most recent read that decoded — reads of a
missing file, open errors and malformed contents in between leave it alone (decode-before-checksum order,
regenerated fact F15a). -/
theorem C17_sum_is_last_decoded (dec : Bytes → Option V) (c : Cfg) (s : WState) (rs : List IterRead) :
    (run dec c s rs).1.lastSum = lastDecoded dec s.lastSum (rs.map (·.val)) :=
  run_lastSum dec c s rs

/-- **One iteration, complete characterisation of what is reported.**  A value is reported exactly when
the file was read, its content decodes and differs from the remembered content; then it is the decoding of
what was read in THIS iteration. -/
theorem C17_report_iff_changed (dec : Bytes → Option V) (c : Cfg) (s : WState) (r : IterRead) :
    reports (iter dec c s r).2 =
      match r.val with
      | .content b =>
        (match dec b with
         | some v => if s.lastSum = some b then [] else [v]
         | none => [])
      | .openErr _ _ => [] :=
  (iter_obs dec c s r).2.1

/-- **Identical content never produces a version.**  If the loop remembers content `b` (which decodes) and
an iteration reads `b` again — after an atomic rename-over, a symlink swap, a rewrite in place or a
delete-and-recreate with the same bytes — nothing is reported, no error is reported and the state of the
checksum is unchanged. -/
theorem C17_identical_no_version (dec : Bytes → Option V) (c : Cfg) (s : WState) (r : IterRead) (b : Bytes) (v : V)
    (hs : s.lastSum = some b) (hr : r.val = .content b) (hd : dec b = some v) :
    reports (iter dec c s r).2 = [] ∧ errorsReported (iter dec c s r).2 = [] ∧
      (iter dec c s r).1.lastSum = some b := by
  simp [iter_obs, lastDecoded, hr, hs, hd]

/-- **A version is produced only on a change of content**, over whole histories: if, after any history `rs`,
an iteration reports something, then it read a content `b` that decodes to the reported value and that is
different from the content of the most recent read that decoded (or the initial one) — however many reads of
a missing file, open errors or malformed contents lie in between. -/
theorem C17_version_only_on_change (dec : Bytes → Option V) (c : Cfg) (s : WState) (rs : List IterRead) (r : IterRead)
    (h : reports (iter dec c (run dec c s rs).1 r).2 ≠ []) :
    ∃ b v, r.val = .content b ∧ dec b = some v ∧ reports (iter dec c (run dec c s rs).1 r).2 = [v] ∧
      lastDecoded dec s.lastSum (rs.map (·.val)) ≠ some b := by
  simp only [← run_lastSum dec c s rs, iter_obs] at *
  cases hr : r.val with
  | openErr ne sc => simp [hr] at h
  | content b =>
    cases hd : dec b with
    | none => simp [hr, hd] at h
    | some v =>
      by_cases hsame : (run dec c s rs).1.lastSum = some b
      · simp [hr, hd, hsame] at h
      · exact ⟨b, v, rfl, hd, by simp [hd, hsame], hsame⟩

/-- **Convergence, valid final content.**  In any run whose last iteration read the final content `b`
completely and `b` decodes to `v`: the last reported value (the initial one if nothing was ever reported)
is `v` — whether this iteration reported it or an earlier one did and the content was merely seen again.
Environment assumption (PARTIAL): such an iteration exists, i.e. an event, poll tick or reload signal
arrives after the last change. -/
theorem C17_converges_ok (dec : Bytes → Option V) (c : Cfg) (s : WState) (v0 : V) (rs : List IterRead) (r : IterRead)
    (b : Bytes) (v : V) (hinv : SumInv dec s.lastSum v0) (hr : r.val = .content b) (hd : dec b = some v) :
    lastReported v0 (run dec c s (rs ++ [r])).2 = v := by
  rw [run_append, run_single, lastReported_append]
  unfold lastReported
  simp only [iter_obs, hr]
  simp only [hd]
  split
  · have := C17_sum_invariant dec c s v0 rs hinv b ‹_›
    rw [hd] at this
    exact (Option.some.inj this).symm
  · rfl

/-- **Convergence, invalid final content.**  In any run whose last iteration read a final content that
does not decode: that iteration reports the decoder's error and no value, the last good value stands, and the
remembered checksum is untouched — so a later return to the last good content stays silent and any other
valid content is reported. -/
theorem C17_converges_err (dec : Bytes → Option V) (c : Cfg) (s : WState) (v0 : V) (rs : List IterRead) (r : IterRead)
    (b : Bytes) (hr : r.val = .content b) (hd : dec b = none) :
    errorsReported (iter dec c (run dec c s rs).1 r).2 = [.decoder] ∧
    reports (iter dec c (run dec c s rs).1 r).2 = [] ∧
    lastReported v0 (run dec c s (rs ++ [r])).2 = lastReported v0 (run dec c s rs).2 ∧
    (run dec c s (rs ++ [r])).1.lastSum = (run dec c s rs).1.lastSum := by
  have hrep : reports (iter dec c (run dec c s rs).1 r).2 = [] := by simp [iter_obs, hr, hd]
  rw [run_append, run_single, lastReported_append]
  refine ⟨by simp [iter_obs, hr, hd], hrep, by simp [lastReported, hrep], ?_⟩
  simp [iter_obs, lastDecoded, hr, hd]

/-- **A missing file is silent.**  An iteration that finds the file missing (between the unlink and the
re-creation of a delete-and-recreate, or a dangling symlink during a swap) reports neither a value nor an
error and forgets nothing: the last good config stays in force. -/
theorem C17_missing_silent (dec : Bytes → Option V) (c : Cfg) (s : WState) (r : IterRead) (sc : Bool)
    (hr : r.val = .openErr true sc) :
    reports (iter dec c s r).2 = [] ∧ errorsReported (iter dec c s r).2 = [] ∧
      (iter dec c s r).1.lastSum = s.lastSum ∧ (iter dec c s r).1.resolved = s.resolved := by
  have hf : found r.val = false := by rw [hr]; rfl
  refine ⟨by simp [iter_obs, hr], by simp [iter_obs, hr], by simp [iter_obs, lastDecoded, hr], ?_⟩
  rw [iter_missing dec c s r hf]

/-- Any other failure to open the file (permissions, a symlink loop, …) is reported as an error; nothing is
reported as a value and the remembered checksum is untouched. -/
theorem C17_open_error_reported (dec : Bytes → Option V) (c : Cfg) (s : WState) (r : IterRead) (sc : Bool)
    (hr : r.val = .openErr false sc) :
    errorsReported (iter dec c s r).2 = [.openE] ∧ reports (iter dec c s r).2 = [] ∧
      (iter dec c s r).1.lastSum = s.lastSum := by
  simp [iter_obs, lastDecoded, hr]

/-- **Spurious wake-ups are harmless.**  Repeating an iteration with the same reads (duplicate fsnotify
events, a poll tick, a reload signal) leaves the whole loop state unchanged and reports no value. -/
theorem C17_stutter (dec : Bytes → Option V) (c : Cfg) (s : WState) (r : IterRead) :
    (iter dec c (iter dec c s r).1 r).1 = (iter dec c s r).1 ∧
      reports (iter dec c (iter dec c s r).1 r).2 = [] := by
  refine ⟨iter_idem_state dec c s r, ?_⟩
  simp only [iter_obs]
  cases r.val with
  | openErr ne sc => rfl
  | content b => cases hd : dec b <;> simp [lastDecoded, hd]

/-! ### Watches -/

/-- What the loop needs to keep hearing about changes: the file's watch is held whenever the loop believes
so, the directory of the resolved path and the config's own directory are watched, and the resolved
directory is not the file itself (true of real paths). -/
def WatchOK (c : Cfg) (s : WState) : Prop :=
  (s.watchingFile = true → c.cleaned ∈ s.watches) ∧ dirOf s.resolved ∈ s.watches ∧
    dirOf c.cleaned ∈ s.watches ∧ dirOf s.resolved ≠ c.cleaned

/-- Decidable side conditions of one pass that found the file — both are about what the OS answered, not about
the code: (1) path sanity — the new resolved directory is not the file itself (true of real paths);
(2) adding the new directory's watch, if attempted, succeeded (`inotify_add_watch` can fail when the directory
vanished again or the watch limit is reached; `C17_failed_dir_add_not_retried` shows what happens then). -/
def stepOK (c : Cfg) (s : WState) (r : IterRead) : Bool :=
  !found r.val ||
  (decide (dirOf (r.env.resolved.getD s.resolved) ≠ c.cleaned) &&
   (decide (dirOf s.resolved = dirOf (r.env.resolved.getD s.resolved)) || r.env.addDirOk))

/-- `stepOK` along a run. -/
def historyOK (dec : Bytes → Option V) (c : Cfg) (s : WState) : List IterRead → Bool
  | [] => true
  | r :: rs => stepOK c s r && historyOK dec c (iter dec c s r).1 rs

/-- **Watch invariant, one step.**  One iteration (file found or missing) preserves `WatchOK` under the side conditions; if it found the file and (when it had to)
could add the file's watch, the file is watched afterwards. -/
theorem C17_watch_invariant_step (dec : Bytes → Option V) (c : Cfg) (s : WState) (r : IterRead)
    (hcfg : dirOf c.cleaned ≠ c.cleaned) (h : WatchOK c s) (hok : stepOK c s r = true) :
    WatchOK c (iter dec c s r).1 ∧
      (found r.val = true → r.env.addFileOk = true →
        (iter dec c s r).1.watchingFile = true ∧ c.cleaned ∈ (iter dec c s r).1.watches) := by
  obtain ⟨hfile, hres, hpar, hne⟩ := h
  cases hf : found r.val with
  | false =>
    rw [iter_missing dec c s r hf]
    unfold WatchOK
    exact ⟨⟨(nomatch ·), (mem_missingStep ..).2 ⟨hres, fun _ => hne⟩, (mem_missingStep ..).2 ⟨hpar, fun _ => hcfg⟩, hne⟩,
      (nomatch ·)⟩
  | true =>
    rw [iter_found dec c s r hf]
    unfold WatchOK
    simp only [stepOK, hf, Bool.not_true, Bool.false_or, Bool.and_eq_true, Bool.or_eq_true, decide_eq_true_eq] at hok
    obtain ⟨hnew, hadd⟩ := hok
    -- after the file-watch step nothing was dropped, and the file is watched if the loop believes so
    have hsub : ∀ q ∈ s.watches, q ∈ applyWatches s.watches (fileWatchStep (V := V) c s.watchingFile r.env).2 :=
      fun q hq => (mem_fileWatchStep ..).2 (Or.inl hq)
    have hF : (fileWatchStep (V := V) c s.watchingFile r.env).1 = true →
        c.cleaned ∈ applyWatches s.watches (fileWatchStep (V := V) c s.watchingFile r.env).2 := by
      rw [mem_fileWatchStep, fileWatchStep_eq]
      cases hw : s.watchingFile with
      | true => exact fun _ => Or.inl (hfile hw)
      | false => exact fun ha => Or.inr ⟨rfl, ha, rfl⟩
    have hwf : r.env.addFileOk = true → (fileWatchStep (V := V) c s.watchingFile r.env).1 = true := by
      simp +contextual [fileWatchStep_eq]
    generalize applyWatches s.watches (fileWatchStep (V := V) c s.watchingFile r.env).2 = w1 at *
    generalize (fileWatchStep (V := V) c s.watchingFile r.env).1 = wf1 at *
    generalize dirOf (r.env.resolved.getD s.resolved) = new at *
    -- the directory step drops neither the file's watch (`hne`) nor the own directory's
    have hcl : wf1 = true →
        c.cleaned ∈ applyWatches (V := V) w1 (dirWatchStep (dirOf c.cleaned) (dirOf s.resolved) new r.env) :=
      fun h => mem_dirWatchStep_of_mem (hF h) (fun h => absurd h.symm hne)
    exact ⟨⟨hcl, new_mem_dirWatchStep (fun h => h ▸ hsub _ hres) hadd.resolve_left,
      mem_dirWatchStep_of_mem (hsub _ hpar) Eq.symm, hnew⟩, fun _ ha => ⟨hwf ha, hcl (hwf ha)⟩⟩

/-- `Watch` starts the loop in a state satisfying `WatchOK` (F15w). -/
theorem C17_watch_setup (c : Cfg) (l : Option Bytes) (p0 : Path) (hne : dirOf p0 ≠ c.cleaned) :
    WatchOK c (watchInit c l p0) := by
  unfold WatchOK watchInit
  by_cases h : c.cleaned = p0
  · subst h
    simp [applyWatches, mem_applyWatch_add, hne]
  · simp [applyWatches, mem_applyWatch_add, h, hne]

/-- **The config file's own directory stays watched — full strength.**  Over EVERY finite history (any contents, any
symlink resolutions incl. a regular file turning into a symlink into another directory and back, any results of any
`Add`/`Remove` call): the watch on `filepath.Dir(cleanedPath)` that `Watch` set up is never given up
(updateDirWatches returns before `Remove` when the old directory is the config's own one, F15f4; repaired defect D26).
That directory is where the file — or the symlink to it, or the `..data` link — gets replaced, so every later
replacement produces an event the loop is subscribed to.  Only hypothesis: the config path is not its own directory
(false only of "/" and "."). -/
theorem C17_own_dir_always_watched (dec : Bytes → Option V) (c : Cfg) (s : WState) (rs : List IterRead)
    (hcfg : dirOf c.cleaned ≠ c.cleaned) (h : dirOf c.cleaned ∈ s.watches) :
    dirOf c.cleaned ∈ (run dec c s rs).1.watches := by
  induction rs generalizing s with
  | nil => exact h
  | cons r rs ih =>
    rw [run_cons]
    exact ih _ (own_dir_step dec c s r hcfg h)

/-- **Watches are repaired.**  Over every finite history whose passes satisfy `stepOK` — the two conditions on what the
OS answered: resolved directories are not the file itself, and every attempted `Add` of a new resolved directory
succeeded — after any pass that found the file and, if the file's watch had been dropped because the file was
missing, could re-add it: the loop holds watches on the file, on the directory of the resolved path and on the
config's own directory.  There is no hypothesis about the ORDER or KIND of changes (a regular file becoming a symlink
included: `C17_own_dir_always_watched`).  What `historyOK` excludes is exactly
the situation of `C17_failed_dir_add_not_retried` (a failed `inotify_add_watch`), where the conclusion is false.
(`watches` is what the loop asked fsnotify for; that the kernel keeps an inode's watch until the inode goes away is an
environment assumption.) -/
theorem C17_watches_repaired (dec : Bytes → Option V) (c : Cfg) (s : WState) (rs : List IterRead) (r : IterRead)
    (hcfg : dirOf c.cleaned ≠ c.cleaned) (h0 : WatchOK c s)
    (hist : historyOK dec c s (rs ++ [r]) = true) (hfound : found r.val = true) (hadd : r.env.addFileOk = true) :
    (run dec c s (rs ++ [r])).1.watchingFile = true ∧
    c.cleaned ∈ (run dec c s (rs ++ [r])).1.watches ∧
    dirOf (run dec c s (rs ++ [r])).1.resolved ∈ (run dec c s (rs ++ [r])).1.watches ∧
    dirOf c.cleaned ∈ (run dec c s (rs ++ [r])).1.watches := by
  induction rs generalizing s with
  | nil =>
    simp only [List.nil_append, historyOK, Bool.and_true] at hist
    rw [List.nil_append, run_single]
    have := C17_watch_invariant_step dec c s r hcfg h0 hist
    exact ⟨(this.2 hfound hadd).1, (this.2 hfound hadd).2, this.1.2.1, this.1.2.2.1⟩
  | cons x xs ih =>
    simp only [List.cons_append, historyOK, Bool.and_eq_true] at hist
    rw [List.cons_append, run_cons]
    exact ih (iter dec c s x).1 (C17_watch_invariant_step dec c s x hcfg h0 hist.1).1 hist.2

/-- After an iteration that found the file missing the loop no longer believes it watches the file (the
kernel dropped that inode's watch with the inode), so that the next iteration that finds the file adds a
fresh watch for the new inode: delete-and-recreate re-arms the file watch. -/
theorem C17_delete_recreate_rewatches (dec : Bytes → Option V) (c : Cfg) (s : WState) (r1 r2 : IterRead)
    (hw : s.watchingFile = true) (h1 : found r1.val = false) (h2 : found r2.val = true) :
    (iter dec c s r1).2 = [.removeWatch c.cleaned r1.env.rmFileOk] ∧
    (iter dec c s r1).1.watchingFile = false ∧
    .addWatch c.cleaned r2.env.addFileOk ∈ (iter dec c (iter dec c s r1).1 r2).2 := by
  rw [iter_found dec c _ r2 h2, iter_missing dec c s r1 h1]
  simp [missingStep_eq, fileWatchStep_eq, hw]

/-- Regression witness of repaired defect D26, kernel-evaluated: config `/d/c`, a regular file when `Watch` started,
is replaced by a symlink resolving to `/d/t/c`.  The pass that notices adds the watch on `/d/t` and keeps the one on
`/d`; it then asks for a re-read. -/
theorem C17_file_becomes_symlink :
    let c : Cfg := ⟨['/', 'd', '/', 'c']⟩
    let s := watchInit c none ['/', 'd', '/', 'c']
    let r : IterRead := ⟨.content ['x'], { resolved := some ['/', 'd', '/', 't', '/', 'c'] }⟩
    (iter (V := Bytes) some c s r).2 = [.addWatch ['/', 'd', '/', 't'] true, .report ['x']] ∧
    (iter (V := Bytes) some c s r).1.watches = [['/', 'd', '/', 'c'], ['/', 'd'], ['/', 'd', '/', 't']] ∧
    rereadAfter c s r = true := by
  decide

/-- A failed `Add` of the new resolved directory is never retried (race window: the new directory vanished
again before the watch could be added): `resolvedCfgPath` was already updated, so the next iterations see
"no change" — stated as: such an iteration leaves the new directory unwatched while recording it as resolved. -/
theorem C17_failed_dir_add_not_retried (dec : Bytes → Option V) (c : Cfg) (s : WState) (r : IterRead) (p : Path)
    (hw : s.watchingFile = true) (hf : found r.val = true) (hp : r.env.resolved = some p)
    (hne : dirOf s.resolved ≠ dirOf p) (hfail : r.env.addDirOk = false) :
    (iter dec c s r).1.resolved = p ∧ (iter dec c s r).1.watches = s.watches := by
  rw [iter_found dec c s r hf, hp]
  simp [fileWatchStep_eq, dirWatchStep_eq, hw, hne, hfail, applyWatches, applyWatch_add_failed]

/-! ### Re-reading after a new directory watch (repaired defect D27) -/

/-- **After a watch on a new directory was added the file is read again, at once.**  If a pass found the file, the
resolved directory changed and its `Add` succeeded, then (F15r: `if newDirWatched { goto REREAD }`) the same wake-up
continues with another pass on the next read — without waiting for any event — and that read is taken in a state in
which the new directory IS in the watch table.  (The first read was taken before the watch existed, so a write between
the two produced no event; the second read sees it, and every later write produces an event.) -/
theorem C17_reread_after_new_dir_watch (dec : Bytes → Option V) (c : Cfg) (s : WState) (r r2 : IterRead) (rs : List IterRead)
    (hf : found r.val = true) (hmove : dirOf s.resolved ≠ dirOf (r.env.resolved.getD s.resolved))
    (hadd : r.env.addDirOk = true) :
    rereadAfter c s r = true ∧
    wake dec c s (r :: r2 :: rs) =
      ((wake dec c (iter dec c s r).1 (r2 :: rs)).1,
       (iter dec c s r).2 ++ (wake dec c (iter dec c s r).1 (r2 :: rs)).2.1,
       (wake dec c (iter dec c s r).1 (r2 :: rs)).2.2) ∧
    reports (wake dec c s (r :: r2 :: rs)).2.1 =
      reports (iter dec c s r).2 ++ reports (wake dec c (iter dec c s r).1 (r2 :: rs)).2.1 ∧
    dirOf (iter dec c s r).1.resolved ∈ (iter dec c s r).1.watches := by
  have hre : rereadAfter c s r = true := by simp [rereadAfter_eq, hf, hmove, hadd]
  have hw := wake_cons dec c s r (r2 :: rs)
  rw [if_pos hre] at hw
  refine ⟨hre, hw, by rw [hw, reports_append], ?_⟩
  rw [iter_found dec c s r hf]
  exact new_mem_dirWatchStep (fun h => absurd h hmove) (fun _ => hadd)

/-- A pass that added no watch on a new directory ends the wake-up: the loop goes back to its select. -/
theorem C17_no_reread_otherwise (dec : Bytes → Option V) (c : Cfg) (s : WState) (r : IterRead) (rs : List IterRead)
    (h : rereadAfter c s r = false) :
    wake dec c s (r :: rs) = ((iter dec c s r).1, (iter dec c s r).2, rs) := by
  rw [wake_cons, h]
  rfl

/-- **The last read of a wake-up was taken under watch.**  When a pass that found the file sends the loop back to its
select (no re-read) and every attempted `Add` succeeded, the resolved directory did not change in this pass; with
`WatchOK` it was therefore in the watch table BEFORE the file was read: any write after that read produces an event
that passes the filter (`C17_events_pass`).  Together with `C17_reread_after_new_dir_watch` this closes the window of
repaired defect D27. -/
theorem C17_settled_pass_read_under_watch (dec : Bytes → Option V) (c : Cfg) (s : WState) (r : IterRead)
    (h0 : WatchOK c s) (hf : found r.val = true) (hadd : r.env.addDirOk = true) (h : rereadAfter c s r = false) :
    dirOf (iter dec c s r).1.resolved = dirOf s.resolved ∧ dirOf (iter dec c s r).1.resolved ∈ s.watches := by
  have hsame : dirOf s.resolved = dirOf (r.env.resolved.getD s.resolved) := by
    simpa [rereadAfter_eq, hf, hadd] using h
  rw [iter_found dec c s r hf]
  exact ⟨hsame.symm, hsame ▸ h0.2.1⟩

/-- A wake-up is a prefix of a run: its passes are exactly `run` over the reads it consumed, so every theorem about
histories of passes applies to histories of wake-ups. -/
theorem C17_wake_is_run (dec : Bytes → Option V) (c : Cfg) (s : WState) (rs : List IterRead) :
    ∃ n, (wake dec c s rs).2.2 = rs.drop n ∧ (wake dec c s rs).1 = (run dec c s (rs.take n)).1 ∧
      (wake dec c s rs).2.1 = (run dec c s (rs.take n)).2 := by
  induction rs generalizing s with
  | nil => exact ⟨0, rfl, rfl, rfl⟩
  | cons r rs ih =>
    rw [wake_cons]
    cases rereadAfter c s r with
    | false => exact ⟨1, rfl, rfl, (List.append_nil _).symm⟩
    | true =>
      obtain ⟨n, h1, h2, h3⟩ := ih (iter dec c s r).1
      exact ⟨n + 1, h1, h2, congrArg _ h3⟩

/-! ### Lost events: the overflow error re-synchronises -/

/-- **A watcher error wakes the loop into a read.**  When the kernel's inotify queue overflows, events — possibly the one
for the last change of the config — are lost and fsnotify delivers `ErrEventOverflow` on its Errors channel instead.
That arm of the select falls through to the read (F15e2: nothing in it leaves the select but the closed-channel exit), so
the turn of the loop is a full wake-up over the next reads: the file is read again although no event named it. -/
theorem C17_error_wakes_reread (dec : Bytes → Option V) (c : Cfg) (s : WState) (rs : List IterRead) :
    selectArm c s.resolved .error = .pass ∧
    loopTurn dec c s .error rs = ((wake dec c s rs).1, (wake dec c s rs).2.1, (wake dec c s rs).2.2, true) := by
  have h : selectArm c s.resolved .error = .pass := rfl
  exact ⟨h, by rw [loopTurn, h]⟩

/-- …and therefore an overflow is repaired: after ANY history, a turn of the loop woken by the error whose pass read the
final content `b` (which decodes to `v`) leaves `v` as the last reported value — the same conclusion as
`C17_converges_ok`, with the lost event replaced by the error.  Environment assumption (PARTIAL): the kernel/fsnotify
does deliver the overflow error after events were dropped. -/
theorem C17_overflow_resync (dec : Bytes → Option V) (c : Cfg) (s : WState) (v0 : V) (rs : List IterRead) (r : IterRead)
    (b : Bytes) (v : V) (hinv : SumInv dec s.lastSum v0) (hr : r.val = .content b) (hd : dec b = some v)
    (hsettled : rereadAfter c (run dec c s rs).1 r = false) :
    lastReported v0 ((run dec c s rs).2 ++ (loopTurn dec c (run dec c s rs).1 .error [r]).2.1) = v := by
  rw [(C17_error_wakes_reread dec c (run dec c s rs).1 [r]).2, C17_no_reread_otherwise dec c _ r [] hsettled]
  have := C17_converges_ok dec c s v0 rs r b v hinv hr hd
  rwa [run_append, run_single] at this

/-- F15p: the fallback poll (`WithPollInterval`) is a repeating ticker, so the select's ticker arm keeps producing
wake-ups for as long as the loop runs: `C17_wake_is_run` / `C17_converges_ok` then apply to a change that produces no
file-system event at all (the config's directory removed and recreated), whenever it happens. -/
theorem C17_poll_keeps_waking : Facts.watchPollRepeats = true := by
  decide

/-- The other arms: ticker and Reload fall through to the read, an event does exactly when its name passes the filter,
a closed channel or a done context ends the loop (whose deferred calls close the watcher). -/
theorem C17_select_arms (c : Cfg) (resolved : Path) (n : Path) :
    selectArm c resolved .tick = .pass ∧ selectArm c resolved .reload = .pass ∧
    (selectArm c resolved (.event n) = .pass ↔ eventPasses c resolved n = true) ∧
    selectArm c resolved .ctxDone = .exit ∧ selectArm c resolved .eventsClosed = .exit ∧
    selectArm c resolved .errorsClosed = .exit := by
  refine ⟨rfl, rfl, ?_, rfl, rfl, rfl⟩
  cases h : eventPasses c resolved n <;> simp [selectArm, h]

/-! ### Events (the filter in front of an iteration) -/

/-- Events named after the config path (the file's own watch; in-place writes and rename-overs seen through
the directory watch), the resolved path (the file inside the resolved directory), either directory, `<dir>/..data`
(the rename Kubernetes' AtomicWriter commits a new version with; repaired defect D25) or the legacy `<dir>/..dir`
pass the filter (F15g/F15k); every passing event triggers a pass. -/
theorem C17_events_pass (c : Cfg) (resolved : Path) :
    eventPasses c resolved c.cleaned = true ∧ eventPasses c resolved resolved = true ∧
    eventPasses c resolved (dirOf c.cleaned) = true ∧ eventPasses c resolved (dirOf resolved) = true ∧
    eventPasses c resolved (joinPath (dirOf c.cleaned) ['.', '.', 'd', 'a', 't', 'a']) = true ∧
    eventPasses c resolved (joinPath (dirOf c.cleaned) ['.', '.', 'd', 'i', 'r']) = true := by
  simp only [eventPasses_eq, beq_self_eq_true, Bool.or_true, Bool.true_or, and_self]

/-- **A `..data` swap is noticed by itself.**  Config `/d/c` → `..data/c` → `/d/..1/c`: of the events of a swap
(`/d/..2` created, `/d/..data_tmp` created, `/d/..data_tmp` renamed onto `/d/..data`) the last one passes the filter,
so the new content is read whether or not the old timestamped directory is ever removed; the removal (event
`/d/..1/c`) passes as well. -/
theorem C17_data_swap_event_passes :
    let c : Cfg := ⟨['/', 'd', '/', 'c']⟩
    let resolved : Path := ['/', 'd', '/', '.', '.', '1', '/', 'c']
    eventPasses c resolved ['/', 'd', '/', '.', '.', '2'] = false ∧
    eventPasses c resolved ['/', 'd', '/', '.', '.', 'd', 'a', 't', 'a', '_', 't', 'm', 'p'] = false ∧
    eventPasses c resolved ['/', 'd', '/', '.', '.', 'd', 'a', 't', 'a'] = true ∧
    eventPasses c resolved ['/', 'd', '/', '.', '.', '1', '/', 'c'] = true := by
  decide

/-! ### Regenerated facts the model rests on -/

/-- The statement orders and classifications of file.go the model mirrors (regenerated from the working tree
on every run): open error returned at once; decode error exits before the checksum is recorded; the checksum
is stored unconditionally and "unchanged" means equal; a missing file ends the iteration after dropping the
file watch; with the file found the loop re-resolves, re-adds the file watch iff dropped, moves the directory
watch (add before remove, old kept if the add fails, nothing when equal, the config's own directory never removed) and only then
classifies, and jumps back to the read when a watch on a new directory was added; the filter passes `..data` and `..dir`;
nil → ReportNewValue, unchanged → nothing, *os.SyscallError → ReportError unless not-exist, anything else →
ReportError; the select wakes on ticker / Reload / events / errors / ctx; on ctx.Done the loop returns and its
deferred calls close the fsnotify watcher (dropping all kernel watches and fsnotify's reader goroutine) before
WG.Done; `Watch` adds file, directory and resolved directory. -/
theorem C17_facts :
    Facts.fileOpenErrReturned = true ∧ Facts.fileDecodeErrBeforeChecksum = true ∧
    Facts.fileUnchangedWhenEqual = true ∧ Facts.fileLastSumStoredAndCompared = true ∧
    Facts.watchSkipsMissing = true ∧ Facts.watchMissingRemovesFileWatch = true ∧
    Facts.watchRepairsBeforeReport = true ∧
    Facts.dirWatchSkipWhenEqual = true ∧ Facts.dirWatchAddBeforeRemove = true ∧ Facts.dirWatchKeepOldOnAddErr = true ∧
    Facts.dirWatchKeepsOwnDir = true ∧ Facts.watchRereadsAfterNewDirWatch = true ∧
    Facts.watchArmNil = 1 ∧ Facts.watchArmUnchanged = 0 ∧ Facts.watchArmSyscall = 3 ∧ Facts.watchArmDefault = 2 ∧
    Facts.watchEventFilterCodes = [0, 1, 2, 3, 5, 4] ∧
    Facts.k8sIntermediateSymlinkDirChars = ['.', '.', 'd', 'a', 't', 'a'] ∧ Facts.legacyIntermediateSymlinkDirChars = ['.', '.', 'd', 'i', 'r'] ∧
    Facts.watchWakesOnAll = true ∧ Facts.watchErrorsFallThrough = true ∧ Facts.watchTickReloadFallThrough = true ∧
    Facts.watchLoopReturnsOnCtxDone = true ∧
    Facts.watchLoopDefersClose = true ∧ Facts.watchLoopDefersWGDoneFirst = true ∧
    Facts.watchSetupComplete = true := by
  decide

/-! ### Non-vacuity -/

/-- a concrete history: valid A (initial) → malformed → missing → A again (identical) → B -/
example :
    let c : Cfg := ⟨['/', 'd', '/', 'c']⟩
    let e : Env := { resolved := some ['/', 'd', '/', 'c'] }
    let dec : Bytes → Option Bytes := fun b => if b.head? = some '!' then none else some b
    let s0 := watchInit c (some ['A']) ['/', 'd', '/', 'c']
    let rs : List IterRead := [⟨.content ['!'], e⟩, ⟨.openErr true false, e⟩, ⟨.content ['A'], e⟩, ⟨.content ['B'], e⟩]
    (run dec c s0 rs).2 =
      [.reportErr .decoder, .removeWatch ['/', 'd', '/', 'c'] true, .addWatch ['/', 'd', '/', 'c'] true, .report ['B']] ∧
    lastReported ['A'] (run dec c s0 rs).2 = ['B'] ∧ historyOK dec c s0 rs = true := by
  decide

/-- `SumInv` and `WatchOK` are satisfiable by the state `Watch` starts the loop in -/
example : SumInv (fun b => some b) (watchInit ⟨['/', 'd', '/', 'c']⟩ (some ['A']) ['/', 'd', '/', 'c']).lastSum ['A'] := by
  intro b hb
  simp only [watchInit, Option.some.injEq] at hb
  rw [← hb]

end Dials.C17
