/-
C04 — Only verified configs become visible; rejected updates change nothing.
-/
import DialsModel.Model.RuntimeSpec
import DialsModel.Lemmas.RuntimeInv

namespace Dials.C04
open Dials Dials.Runtime

/-- `Config` itself fails exactly when the initial stack does not stack, or does not verify while
initial verification is on. -/
theorem C04_initial (W : World) (P : Params) (sl : Slots) :
    (∃ v, configInit W P sl = .ok v) ↔
      (W.stackOk sl = true ∧ (Facts.initialVerify P.skipInitial P.delay = true → W.valid sl = true)) := by
  unfold configInit
  cases W.stackOk sl <;> cases W.valid sl <;> cases Facts.initialVerify P.skipInitial P.delay <;> simp

/-- F5o: when `Config` fails (`configInit = .err`), the model has no state at all - no monitor, no callback goroutine,
nothing that could receive a later report and install it on top of the refused stack.  The code agrees because the
initial verification is the statement BEFORE the one that starts the two goroutines (regenerated). -/
theorem C04_refused_initial_stack_starts_nothing : Facts.initialVerifyBeforeGoroutines = true := by
  decide

theorem C04_initial_version (W : World) (P : Params) (sl : Slots) (v : Version)
    (h : configInit W P sl = .ok v) : v = ⟨0, sl⟩ := by
  unfold configInit at h
  split at h
  · cases h
  · split at h
    · cases h
    · cases h; rfl

/-- The view changes only by the monitor's store step, and then to the next serial. -/
theorem C04_view_changes_only_by_store (W : World) (s s' : State) (l : Label)
    (h : step W s l = some s') (hne : s'.view ≠ s.view) :
    ∃ slots' reply ch, s.mon = .store slots' reply ∧ l = .runMon ch ∧
      s'.view = ⟨Facts.nextSerial s.view.serial, slots'⟩ := by
  rcases label_cases l with hl | ⟨ch, rfl⟩
  · exact absurd ((Step.of_step h).frame hl).view hne
  cases MonStep.of_run h with
  | store sl r hm => exact ⟨sl, r, ch, hm, rfl, rfl⟩
  | take i _ _ => exact absurd (monTake_view ..) hne
  | submitErr k new r _ => exact absurd (by rw [trySubmit_shape]; rfl) hne
  | submitNew | submitSrcErr => exact absurd (by rw [trySubmit_shape]) hne
  | replyErr | replyOk => exact absurd (by rw [replyTo_shape]) hne
  | gotSrcErr e _ => split at hne <;> exact absurd rfl hne
  | enableReply c tok ok noop _ => exact absurd (by rw [respondTo_shape, enableSwitch_shape]) hne
  | _ => exact absurd rfl hne

/-- The monitor reaches its store step only with the stack of the latest values, which stacked, and
verified unless verification is (still) skipped. -/
theorem C04_store_after_verify {W : World} {P : Params} {sl : Slots} {w : List Bool} {s : State}
    (hr : Reachable W P sl w s) (slots' : Slots) (reply : Option Nat) (hm : s.mon = .store slots' reply) :
    slots' = s.slots ∧ W.stackOk slots' = true ∧ (s.skipVerify = false → W.valid slots' = true) := by
  have h := (InvA_reachable hr).monF
  rw [hm] at h
  exact h

/-- Every installed version stacked, and verified unless it was installed while verification was
skipped (delay in force). -/
theorem C04_installed_verified {W : World} {P : Params} {sl : Slots} {w : List Bool} {s : State}
    (hr : Reachable W P sl w s) (v : Version) (skip : Bool) (hin : Obs.install v skip ∈ s.log) :
    W.stackOk v.cfg = true ∧ (skip = false → W.valid v.cfg = true) :=
  (InvA_reachable hr).instOk v skip hin

/-- Verification is skipped only in delay mode. -/
theorem C04_skip_only_delay {W : World} {P : Params} {sl : Slots} {w : List Bool} {s : State}
    (hr : Reachable W P sl w s) (hs : s.skipVerify = true) : Facts.initialSkipVerify P.delay = true :=
  (InvA_reachable hr).skipDelay hs

/-- Everything a program can observe (View/ViewVersion, Events, OnNewConfig, registered callbacks,
EnableVerification) is the initial version or an installed one. -/
theorem C04_observed_are_versions {W : World} {P : Params} {sl : Slots} {w : List Bool} {s : State}
    (hr : Reachable W P sl w s) :
    (∀ c v, Obs.seen c v ∈ s.log → v ∈ s.versions sl) ∧
    (∀ c v, Obs.evRecv c v ∈ s.log → v ∈ s.installs) ∧
    (∀ old new ser, Obs.enter (.onNew old new ser) ∈ s.log → (⟨ser, new⟩ : Version) ∈ s.installs) ∧
    (∀ h old new ser cu, Obs.enter (.user h old new ser cu) ∈ s.log → (⟨ser, new⟩ : Version) ∈ s.installs) ∧
    (∀ c v, Obs.ret c (.enableOk v) ∈ s.log → v ∈ s.versions sl) := by
  refine ⟨?_, ?_, ?_, ?_, ?_⟩
  · intro c v h; exact mem_versions (observed_ok hr h)
  · intro c v h; exact mem_installs.2 (observed_ok hr h)
  · intro old new ser h; exact mem_installs.2 (observed_ok hr h)
  · intro hd old new ser cu h; exact mem_installs.2 (observed_ok hr h)
  · intro c v h; exact mem_versions (observed_ok hr h)

/-- What the rejected-update step carries: a stack error has no new config, a verify error has the
rejected (stacked but invalid) config. -/
theorem C04_reject_payload {W : World} {P : Params} {sl : Slots} {w : List Bool} {s : State}
    (hr : Reachable W P sl w s) (k : ErrK) (new : Option Slots) (reply : Option Nat)
    (hm : s.mon = .submitErr k new reply) :
    (k = .stack ∧ new = none ∧ W.stackOk s.slots = false) ∨
    (k = .verify ∧ new = some s.slots ∧ W.stackOk s.slots = true ∧ W.valid s.slots = false ∧ s.skipVerify = false) := by
  have h := (InvA_reachable hr).monF
  rw [hm] at h
  exact h

/-- A rejected update is not installed; OnWatchedError's event (error, current config, rejected
config) is queued unless the queue is full (or the Config context is done). -/
theorem C04_reject (W : World) (s s' : State) (ch : Nat) (k : ErrK) (new : Option Slots) (reply : Option Nat)
    (hm : s.mon = .submitErr k new reply) (h : step W s (.runMon ch) = some s') :
    s'.view = s.view ∧
    (match reply with | some c => s'.mon = .replyErr k c | none => s'.mon = .top) ∧
    (Obs.queued (.watchErr k s.view.cfg new) s.skipVerify ∈ s'.log ∨ Obs.dropped (.watchErr k s.view.cfg new) ∈ s'.log) ∧
    (cbRoom s = true → s.isCancelled 0 = false → Obs.queued (.watchErr k s.view.cfg new) s.skipVerify ∈ s'.log) := by
  obtain rfl := (MonStep.submitErr k new reply hm).eq h
  refine ⟨by rw [trySubmit_shape]; rfl, by cases reply <;> rfl, ?_, fun hroom hc => ?_⟩
  · obtain ⟨o, ho, e⟩ := trySubmit_eff s (.watchErr k s.view.cfg new) ch
    have ho' : o ∈ Obs.reject k reply :: (trySubmit s (.watchErr k s.view.cfg new) ch).log :=
      List.mem_cons_of_mem _ (e ▸ List.mem_cons_self)
    rcases ho with rfl | rfl
    · exact .inl ho'
    · exact .inr ho'
  · refine List.mem_cons_of_mem _ ?_
    unfold trySubmit
    rw [hroom, hc]
    exact List.mem_cons_self

/-- … and the blocking reporter, if it is still waiting, gets that error; the view stays unchanged. -/
theorem C04_reply_err (W : World) (s s' : State) (ch : Nat) (k : ErrK) (c ctx : Nat)
    (hm : s.mon = .replyErr k c) (hc : getC s.clients c = .waitReply ctx) (h : step W s (.runMon ch) = some s') :
    s'.view = s.view ∧ getC s'.clients c = .returned (match k with | .stack => .errStack | _ => .errVerify) := by
  obtain rfl := (MonStep.replyErr k c hm).eq h
  refine ⟨by rw [replyTo_shape], ?_⟩
  have : replyTo s c (errRes k) = (s.logAdd (.replied c (errRes k))).ret c (errRes k) := by
    unfold replyTo; simp only [logAdd_clients, hc]
  rw [this]
  cases k <;> exact getC_setC_self ..

end Dials.C04
