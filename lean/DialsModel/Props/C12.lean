/-
C12 — Flag sources: only flags given on the command line override anything.

Theorems over the model of sources/flag/flag.go, sources/pflag/pflag.go and the flag helpers
(Model/FlagSrc.lean), which is driven by the regenerated facts F12 (mangler chains) and F14 (routing
tables, mkname order, skip guards, visitor, overflow guard, helper first-Set-replaces).

External, hence not proved here (sampled by the correspondence / oracle): the argument-list grammar of
flag / pflag (the model consumes the ordered occurrences), strconv float / complex / bool parsing,
time.ParseDuration, UnmarshalText, text/scanner tokenisation, pflag's own slice flags.
-/
import DialsModel.Model.FlagSrc
import DialsModel.Lemmas.FlagSrc
import DialsModel.Props.C15

namespace Dials.C12
open Dials Dials.Tf Dials.Parse Dials.FlagSrc

/-- the source-specific tag of each package -/
def srcTag : Pkg → String
  | .std => "dialsflag"
  | .pflag => "dialspflag"

/-! ### regenerated facts -/

/-- F14p: a flag set that is already parsed (the application called `flag.Parse()` itself, as `NewCmdLineSet` documents)
is not parsed again by `Value`: the model's `Value` folds over each occurrence exactly once, and the accumulation
theorems below (`C12_strSlice_accumulate`, `C12_intSlice_accumulate`, `C12_mapSSlice_accumulate`, ...) would be false
of an implementation that replays the command line a second time. -/
theorem C12_parsed_once : Facts.flagParseOnlyIfUnparsed = true := by
  decide

/-- F14m: a flag that exists on the FlagSet already (registered by the application, or by an earlier `Set` over the
same FlagSet) is not registered again (skip "registered" below) - but its name is still mapped to its field, because the
entry is recorded before the skip; `Value` sets exactly the visited flags it finds in that map. -/
theorem C12_existing_flag_keeps_its_field : Facts.flagMapRecordedBeforeSkips = true := by
  decide

/-- F14 as the proofs below need it: mkname asks the source-specific tag first, then `dials`; a flag name
that exists already and a source tag "-" skip the field; Value walks only the flags that were set; the
standard-library source guards the narrowing conversion with willOverflow; every helper's first Set replaces
the default. -/
theorem C12_facts :
    Pkg.std.mknameTags = ["dialsflag", "dials"] ∧ Pkg.pflag.mknameTags = ["dialspflag", "dials"] ∧
    Pkg.std.skips = ["registered", "dash:dialsflag"] ∧ Pkg.pflag.skips = ["registered", "dash:dialspflag"] ∧
    Pkg.std.visitAll = false ∧ Pkg.pflag.visitAll = false ∧ Pkg.std.checked = true ∧
    (∀ h ∈ ["StringSliceFlag", "StringSetFlag", "MapStringStringSliceFlag", "MapStringStringFlag",
            "SignedIntegralSliceFlag", "UnsignedIntegralSliceFlag"], helperReplaces h = true) := by
  refine ⟨rfl, rfl, rfl, rfl, by decide, by decide, rfl, by decide⟩

/-- The routing tables: every integer width goes to a flag whose parse width covers the leaf (standard
library: 64 bits, narrowed afterwards under the willOverflow guard; pflag: the leaf's own width), for
predeclared and user-defined named types alike; strings and bools to the string / bool flags; the dials
collections to the dials helpers (pflag: []string to pflag's own slice flag, which is not modelled). -/
theorem C12_routes (k : IntKind) (named : Bool) :
    routeOf .std (.ptr (.basic (.int k) named)) = .int k.signed 64 k ∧
    routeOf .pflag (.ptr (.basic (.int k) named)) = .int k.signed k.bits k ∧
    routeOf .std (.ptr (.basic .str named)) = .str ∧ routeOf .pflag (.ptr (.basic .str named)) = .str ∧
    routeOf .std (.ptr (.basic .bool named)) = .bool ∧ routeOf .pflag (.ptr (.basic .bool named)) = .bool ∧
    routeOf .std (.slice plainStr) = .strSlice ∧ routeOf .pflag (.slice plainStr) = .native ∧
    routeOf .std (.set plainStr) = .strSet ∧ routeOf .pflag (.set plainStr) = .strSet ∧
    routeOf .std (.map plainStr plainStr) = .mapSS ∧ routeOf .pflag (.map plainStr plainStr) = .mapSS ∧
    routeOf .std (.map plainStr (.slice plainStr)) = .mapSSlice ∧ routeOf .pflag (.map plainStr (.slice plainStr)) = .mapSSlice ∧
    routeOf .std (.slice (.basic (.int k) false)) = .intSlice k ∧ routeOf .pflag (.slice (.basic (.int k) false)) = .intSlice k := by
  cases k <;> cases named <;> decide

/-! ### names -/

/-- The source-specific tag (`dialsflag`, resp. `dialspflag`) names the flag when it is present. -/
theorem C12_name_source_tag_wins (p : Pkg) (h : Hdr) (n : String) (ht : tagGet h.tags (srcTag p) = some n) :
    mkname p h = .ok n := by
  cases p <;> simp [srcTag] at ht <;>
    simp [mkname, Pkg.mknameTags, Facts.flagMknameStd, Facts.flagMknamePFlag, mknameFrom, ht]

/-- Otherwise the flag is named by the field's `dials` tag (which the flatten mangler always sets:
`C12_flatten_names`). -/
theorem C12_name_else_dials_tag (p : Pkg) (h : Hdr) (n : String) (hs : tagGet h.tags (srcTag p) = none)
    (hd : tagGet h.tags "dials" = some n) : mkname p h = .ok n := by
  cases p <;> simp [srcTag] at hs <;>
    simp [mkname, Pkg.mknameTags, Facts.flagMknameStd, Facts.flagMknamePFlag, mknameFrom, hs, hd]

/-- Two translated fields without source tag and with distinct `dials` tags get distinct flag names. -/
theorem C12_distinct_tags_distinct_names (p : Pkg) (h1 h2 : Hdr) (n1 n2 : String)
    (hs1 : tagGet h1.tags (srcTag p) = none) (hs2 : tagGet h2.tags (srcTag p) = none)
    (hd1 : tagGet h1.tags "dials" = some n1) (hd2 : tagGet h2.tags "dials" = some n2) (hne : n1 ≠ n2) :
    mkname p h1 ≠ mkname p h2 := by
  rw [C12_name_else_dials_tag p h1 n1 hs1 hd1, C12_name_else_dials_tag p h2 n2 hs2 hd2]
  intro h
  cases h
  exact hne rfl

/-- what a field contributes to the names below it: its `dials` tag verbatim, else (unless it is embedded)
the words of its Go name -/
def fieldWords (cfg : FlattenCfg) (h : Hdr) : Option (List String) :=
  match tagGet h.tags cfg.tag with
  | some tv => some [tv]
  | none => if h.anon then some [] else (CaseConv.decodeGoCamel h.name.toList).map (·.map strOf)

/-- the specification of the flattened names: depth-first, each leaf named by the tag-encoder's join of the
words contributed along its path -/
def pathNames (cfg : FlattenCfg) : Nat → List String → List FT → Option (List String)
  | 0, _, _ => none
  | _ + 1, _, [] => some []
  | fuel + 1, words, (h, t) :: rest =>
    match fieldWords cfg h with
    | none => none
    | some ws =>
      let here : Option (List String) :=
        match stripPtrs t with
        | .struct ifs => pathNames cfg fuel (words ++ ws) ifs.toList
        | _ => some [encode cfg.tagEnc (words ++ ws)]
      match here, pathNames cfg fuel words rest with
      | some a, some b => some (a ++ b)
      | _, _ => none

/-- Every field the flatten mangler puts out carries the `dials` tag and the `dialsfieldpath` tag (so mkname
never reaches its panic and GetField finds its path), and the `dials` tags are, in order, the joins — by the
NameConfig's tag encoder, kebab-case by default — of the `dials` tags and field-name words along each leaf's
path. -/
theorem C12_flatten_names (cfg : FlattenCfg) (htag : cfg.tag ≠ "dialsfieldpath") (fuel : Nat) (names words path : List String) (fs outs : List FT)
    (h : flattenStruct cfg fuel names words path fs = .ok outs) :
    pathNames cfg fuel words fs = some (outs.map fun f => (tagGet f.1.tags cfg.tag).getD "") ∧
    ∀ f ∈ outs, (tagGet f.1.tags cfg.tag).isSome = true ∧ (tagGet f.1.tags "dialsfieldpath").isSome = true := by
  induction fuel generalizing names words path fs outs with
  | zero => cases h
  | succ fuel ih =>
    cases fs with
    | nil => cases h; simp [pathNames]
    | cons f rest =>
      obtain ⟨nh, nt⟩ := f
      obtain ⟨tags, words', a, b, hg, hhere, hrest, rfl⟩ := flattenStruct_cons_ok h
      obtain ⟨ws, hfw, rfl, htg, hfp⟩ := flattenGetTag_ok cfg htag nh words _ tags words' hg
      obtain ⟨ihb1, ihb2⟩ := ih _ _ _ _ _ hrest
      -- the field itself: a nested struct (induction) or one leaf carrying `tags`
      have hfield : (match stripPtrs nt with
          | .struct ifs => pathNames cfg fuel (words ++ ws) ifs.toList
          | _ => some [encode cfg.tagEnc (words ++ ws)]) = some (a.map fun f => (tagGet f.1.tags cfg.tag).getD "") ∧
          ∀ f ∈ a, (tagGet f.1.tags cfg.tag).isSome = true ∧ (tagGet f.1.tags "dialsfieldpath").isSome = true := by
        unfold flatHere at hhere
        cases hsp : stripPtrs nt with
        | struct ifs => rw [hsp] at hhere; exact ih _ _ _ _ _ hhere
        | _ => rw [hsp] at hhere; cases hhere; simp [htg, hfp]
      constructor
      · simp only [pathNames, show fieldWords cfg nh = some ws from hfw, hfield.1, ihb1, List.map_append]
      · intro f hf
        rcases List.mem_append.1 hf with hf | hf
        · exact hfield.2 f hf
        · exact ihb2 f hf

/-- With the default NameConfig the join is the kebab-case one: words separated by '-'. -/
theorem C12_default_join_is_kebab (ws : List String) :
    encode .kebab ws = strOf (CaseConv.joinWith '-' (wordsOf ws)) ∧ schemeOfName defaultTagEnc = some .kebab := by
  exact ⟨rfl, rfl⟩

/-- With pairwise distinct flag names every registered flag writes to its own translated field, and a
field whose flag was not visited stays nil. -/
theorem C12_own_field (regs : List Reg) (hnd : (regs.map (·.name)).Nodup) (results : List (Option Val))
    (j : Nat) (rj : Reg) (hj : regs[j]? = some rj) (hr : rj.route ≠ .unreg) :
    fieldVal regs results j rj =
      (match results[j]? with
       | some (some v) => wrapFor rj.ty v
       | _ => .ok .nilv) := by
  have h2 : (regs.map (·.name))[j]? = some rj.name := by
    rw [List.getElem?_map, hj]; rfl
  simp only [fieldVal, regIdxOf_nodup regs hnd j rj hj hr, lastIdxOf_nodup _ _ j hnd h2, beq_self_eq_true, if_true]
  split <;> simp_all

/-! ### only the given flags -/

/-- A flag that does not occur on the command line contributes nothing … -/
theorem C12_not_given (p : Pkg) (toks : TokTable) (reg : Reg) (occs : List Occ)
    (hno : ∀ o ∈ occs, o.name ≠ reg.name) : flagResult p toks reg occs = .ok none := by
  exact flagResult_not_given p toks reg occs hno

/-- … so its translated field is nil in the value handed to ReverseTranslate: lower layers show through. -/
theorem C12_unset_when_not_given (p : Pkg) (toks : TokTable) (regs : List Reg) (occs : List Occ) (vals : List Val)
    (h : fieldVals p toks regs occs = .ok vals) (j : Nat) (rj : Reg) (hj : regs[j]? = some rj)
    (hno : ∀ o ∈ occs, o.name ≠ rj.name) : ∃ v, vals[j]? = some v ∧ v.isNil = true := by
  obtain ⟨results, hres, h⟩ := fieldVals_ok h
  have hz : regs.zipIdx[j]? = some (rj, j) := by simp [List.getElem?_zipIdx, hj]
  obtain ⟨v, hv, hfv⟩ := mapM'_ok_getElem? _ _ vals h j (rj, j) hz
  simp only [fieldVal_not_given p toks regs occs results hres j rj hno] at hfv
  cases hfv
  exact ⟨_, hv, rfl⟩

/-- What a flag contributes depends only on the occurrences of that flag. -/
theorem C12_only_own_occurrences (p : Pkg) (toks : TokTable) (reg : Reg) (occs occs' : List Occ)
    (h : occsOf reg.name occs = occsOf reg.name occs') : flagResult p toks reg occs = flagResult p toks reg occs' := by
  simp only [flagResult, h]

/-- An occurrence whose text its flag rejects makes the whole source fail. -/
theorem C12_bad_occurrence_fails (toks : TokTable) (r : Route) (st : FSt) (pre post : List Occ) (o : Occ) (st' : FSt) (e : String)
    (hpre : runFlag toks r st pre = .ok st') (hbad : setOne toks r st' o = .err e) :
    runFlag toks r st (pre ++ o :: post) = .err e := by
  rw [runFlag_append, hpre]
  simp only [runFlag_cons, hbad]

/-! ### scalars: the last occurrence wins -/

def Route.scalar : Route → Bool
  | .int _ _ _ => true
  | .bool => true
  | .str => true
  | .ext _ => true
  | _ => false

/-- For scalar flags (integers, bools, strings and the externally parsed kinds) the value after a sequence of
accepted occurrences is the one the last occurrence alone gives, whatever came before and whatever the
template's default is. -/
theorem C12_scalar_last_wins (toks : TokTable) (r : Route) (hr : Route.scalar r = true) (st st' d : FSt) (os : List Occ) (o : Occ)
    (h : runFlag toks r st os = .ok st') :
    runFlag toks r st (os ++ [o]) = setOne toks r d o := by
  rw [runFlag_append, h]
  simp only [runFlag_single]
  cases r <;> first | rfl | cases hr

/-! ### collections: the first occurrence replaces the default, later ones accumulate -/

def slicePart (toks : TokTable) (o : Occ) : List String :=
  match stringSlice (o.text == "") (toks o.text).1 with
  | .ok items => items.map ofS
  | _ => []

def setPart (toks : TokTable) (o : Occ) : List String :=
  match stringSet (o.text == "") (toks o.text).1 with
  | .ok items => items.map ofS
  | _ => []

def mapPart (toks : TokTable) (o : Occ) : List (String × String) :=
  match mapStringString (toks o.text).2 with
  | .ok ps => ps.map ofPair
  | _ => []

def mmapPart (toks : TokTable) (o : Occ) : List (String × String) :=
  match mapStringStringSlice (toks o.text).2 with
  | .ok ps => ps.map ofPair
  | _ => []

def intsPart (k : IntKind) (o : Occ) : List Int :=
  match parseIntSlice k o.text.toList with
  | .ok vs => vs
  | _ => []

/-- String slices: the result is the concatenation of all occurrences in order; the template's default `d`
does not appear in it. -/
theorem C12_strSlice_accumulate (toks : TokTable) (d : Acc) (o : Occ) (os : List Occ)
    (hok : ∀ x ∈ o :: os, (stringSlice (x.text == "") (toks x.text).1).isOk = true) :
    runFlag toks .strSlice ⟨d, true⟩ (o :: os) = .ok ⟨.strs ((o :: os).flatMap (slicePart toks)), false⟩ := by
  rw [runFlag_accumulate toks .strSlice .strs Acc.strsOf (fun _ => rfl) (· ++ ·) (slicePart toks) d o os, foldl_append_flatMap]
  · rfl
  · intro x hx st
    obtain ⟨items, hi⟩ := isOk_elim (hok x hx)
    simp only [setOne_strSlice_ok hi, slicePart, hi]

/-- Integer slices of every element kind: concatenation of all occurrences in order. -/
theorem C12_intSlice_accumulate (toks : TokTable) (k : IntKind) (d : Acc) (o : Occ) (os : List Occ)
    (hok : ∀ x ∈ o :: os, (parseIntSlice k x.text.toList).isOk = true) :
    runFlag toks (.intSlice k) ⟨d, true⟩ (o :: os) = .ok ⟨.ints ((o :: os).flatMap (intsPart k)), false⟩ := by
  rw [runFlag_accumulate toks (.intSlice k) .ints Acc.intsOf (fun _ => rfl) (· ++ ·) (intsPart k) d o os, foldl_append_flatMap]
  · rfl
  · intro x hx st
    obtain ⟨items, hi⟩ := isOk_elim (hok x hx)
    simp only [setOne_intSlice_ok hi, intsPart, hi]

/-- … and every element lies in the element type's range (never a wrapped element): C15_int_slice_sound. -/
theorem C12_intSlice_in_range (toks : TokTable) (k : IntKind) (d : Acc) (o : Occ) (os : List Occ) (st : FSt)
    (h : runFlag toks (.intSlice k) ⟨d, true⟩ (o :: os) = .ok st) : ∀ v ∈ st.cur.intsOf, k.inRange v = true := by
  rw [runFlag_cons] at h
  cases hs : setOne toks (.intSlice k) ⟨d, true⟩ o with
  | ok s1 =>
    rw [hs] at h
    exact (runFlag_invariant toks (.intSlice k) (fun s => s.defaulted = false ∧ ∀ v ∈ s.cur.intsOf, k.inRange v = true)
      (fun s x s' hp hx => setOne_intSlice_inRange hx fun _ => hp.2) os s1 st (setOne_intSlice_inRange hs nofun) h).2
  | _ => rw [hs] at h; cases h

/-- String→string-slice maps: the (key, element) pairs of all occurrences in order, i.e. per key the
concatenation of its values. -/
theorem C12_mapSSlice_accumulate (toks : TokTable) (d : Acc) (o : Occ) (os : List Occ)
    (hok : ∀ x ∈ o :: os, (mapStringStringSlice (toks x.text).2).isOk = true) :
    runFlag toks .mapSSlice ⟨d, true⟩ (o :: os) = .ok ⟨.pairs ((o :: os).flatMap (mmapPart toks)), false⟩ := by
  rw [runFlag_accumulate toks .mapSSlice .pairs Acc.pairsOf (fun _ => rfl) (· ++ ·) (mmapPart toks) d o os, foldl_append_flatMap]
  · rfl
  · intro x hx st
    obtain ⟨items, hi⟩ := isOk_elim (hok x hx)
    simp only [setOne_mapSSlice_ok hi, mmapPart, hi]

/-- String sets: the union of all occurrences (the default is dropped) … -/
theorem C12_strSet_accumulate (toks : TokTable) (d : Acc) (o : Occ) (os : List Occ)
    (hok : ∀ x ∈ o :: os, (stringSet (x.text == "") (toks x.text).1).isOk = true) :
    runFlag toks .strSet ⟨d, true⟩ (o :: os) =
      .ok ⟨.strs (os.foldl (fun a x => unionStrs a (setPart toks x)) (setPart toks o)), false⟩ := by
  refine runFlag_accumulate toks .strSet .strs Acc.strsOf (fun _ => rfl) unionStrs (setPart toks) d o os fun x hx st => ?_
  obtain ⟨items, hi⟩ := isOk_elim (hok x hx)
  simp only [setOne_strSet_ok hi, setPart, hi]

/-- … where `unionStrs` is set union. -/
theorem C12_union_mem (a b : List String) (x : String) : x ∈ unionStrs a b ↔ x ∈ a ∨ x ∈ b := by
  unfold unionStrs
  induction b generalizing a with
  | nil => simp
  | cons y ys ih =>
    rw [List.foldl_cons, ih]
    by_cases hc : y ∈ a
    · simp [hc, ← or_assoc, or_iff_left_of_imp fun e : x = y => e ▸ hc]
    · simp [hc, or_assoc]

/-- String maps: the occurrences are merged in order, the default is dropped … -/
theorem C12_mapSS_accumulate (toks : TokTable) (d : Acc) (o : Occ) (os : List Occ)
    (hok : ∀ x ∈ o :: os, (mapStringString (toks x.text).2).isOk = true) :
    runFlag toks .mapSS ⟨d, true⟩ (o :: os) =
      .ok ⟨.pairs (os.foldl (fun a x => mergePairs a (mapPart toks x)) (mapPart toks o)), false⟩ := by
  refine runFlag_accumulate toks .mapSS .pairs Acc.pairsOf (fun _ => rfl) mergePairs (mapPart toks) d o os fun x hx st => ?_
  obtain ⟨items, hi⟩ := isOk_elim (hok x hx)
  simp only [setOne_mapSS_ok hi, mapPart, hi]

/-- … where merging keeps every key of either side and a key of the later occurrence takes the later value. -/
theorem C12_merge_keys (a b : List (String × String)) (k : String) :
    (mergePairs a b).any (·.1 == k) = (a.any (·.1 == k) || b.any (·.1 == k)) := by
  unfold mergePairs
  induction b generalizing a with
  | nil => simp
  | cons kv rest ih =>
    rw [List.foldl_cons, ih, List.any_cons, putPair_any_key, Bool.or_assoc]

/-! ### range -/

/-- The standard-library source's integer flags compute exactly parse.String's integer function
(`parseNumber`, C15): parse with 64 bits, then the overflow check of the leaf's width. -/
theorem C12_std_int_is_parseNumber (k : IntKind) (text : String) :
    intFlagValue Pkg.std.checked k.signed 64 k text = parseNumber k text.toList := by
  exact intFlagValue_std k text

/-- pflag's integer flags parse with the leaf's own width: same accepted texts, same values. -/
theorem C12_pflag_int_is_parseNumber (k : IntKind) (text : String) :
    (intFlagValue Pkg.pflag.checked k.signed k.bits k text).toOption = (parseNumber k text.toList).toOption := by
  exact intFlagValue_own _ k text

/-- The value a visited integer flag hands on is `intFlagValue` of its last occurrence. -/
theorem C12_int_value (toks : TokTable) (checked sg : Bool) (bits : Nat) (k : IntKind) (st st' : FSt) (os : List Occ) (o : Occ)
    (h : runFlag toks (.int sg bits k) st os = .ok st') :
    (match runFlag toks (.int sg bits k) st (os ++ [o]) with
     | .ok s => finish checked (.int sg bits k) s.cur
     | .err c => .err c
     | .panic c => .panic c) =
    (match intFlagValue checked sg bits k o.text with
     | .ok v => .ok (.i v)
     | .err c => .err c
     | .panic c => .panic c) := by
  rw [runFlag_append, h]
  simp only [runFlag_single, setOne, intFlagValue]
  cases parseFlagInt sg bits o.text with
  | none => rfl
  | some v =>
    simp only [finish]
    cases k.inRange v <;> cases checked <;> rfl

/-- Soundness: a value that is accepted is the mathematical value of the literal and lies in the leaf type's
range (instantiates C15_int_sound). -/
theorem C12_int_sound (p : Pkg) (k : IntKind) (text : String) (v : Int)
    (h : intFlagValue p.checked k.signed (match p with | .std => 64 | .pflag => k.bits) k text = .ok v) :
    k.inRange v = true ∧ parseIntLit text.toList = some v := by
  cases p with
  | std => exact C15.C15_int_sound k _ v ((intFlagValue_std k text).symm.trans h)
  | pflag =>
    have ⟨hl, hr⟩ := (intFlagValue_own_ok_iff _ k text v).1 h
    exact ⟨hr, litOf_parseIntLit hl⟩

/-- Range, both packages, every integer kind: an occurrence whose literal denotes a value outside the leaf
type's range is an error — never a wrapped, truncated or saturated value (instantiates C15_int_range). -/
theorem C12_range (p : Pkg) (k : IntKind) (text : String) (v : Int) (hl : parseIntLit text.toList = some v)
    (hr : k.inRange v = false) :
    ∃ e, intFlagValue p.checked k.signed (match p with | .std => 64 | .pflag => k.bits) k text = .err e := by
  refine intFlagValue_err_of_not_ok fun w hw => ?_
  obtain ⟨h1, h2⟩ := C12_int_sound p k text w hw
  cases hl.symm.trans h2
  rw [hr] at h1
  cases h1

/-- Without the guard the same text would wrap: the regenerated fact `flagOverflowCheckedStd` is what the
range theorem rests on for the standard-library source. -/
theorem C12_unguarded_would_wrap : intFlagValue false true 64 .i8 "300" = .ok 44 := by
  decide

/-! ### defaults -/

/-- GetField returns "not populated" (→ the zero value) when the template is nil at or above the leaf. -/
theorem C12_getField_nil (path : List String) (t : Ty) : getField path t .nilv = .ok none := by
  cases path with
  | nil => simp [getField, stripVal]
  | cons n rest => simp only [getField, stripVal]

/-- The advertised default of an integer flag is the decimal text of the template's value, and it parses back
to that value (C15_int_roundtrip): default-is-template. -/
theorem C12_default_int (sg : Bool) (bits : Nat) (k : IntKind) (hk : k ≠ .uintptr) (v : Int) (hv : k.inRange v = true) :
    defaultOf (.int sg bits k) (.i v) = .text (String.ofList (formatInt v)) ∧
    parseNumber k (formatInt v) = .ok v := by
  exact ⟨rfl, C15.C15_int_roundtrip k hk v hv⟩

/-- Bools and strings advertise the template's value itself; the dials collection helpers advertise the
template's elements (sets and maps sorted), quoted. -/
theorem C12_default_simple (x : Bool) (s : String) (xs : List String) (kvs : List (String × String)) :
    defaultOf .bool (.b x) = .text (if x then "true" else "false") ∧
    defaultOf .str (.s s) = .text s ∧
    defaultOf .strSlice (.list (xs.map strVal)) = .quoted xs ∧
    defaultOf .strSet (.setv (xs.map strVal)) = .quoted (sortStrs xs) ∧
    defaultOf .mapSS (.mapv (kvs.map fun p => (.s p.1, .s p.2))) = .quotedPairs (sortPairs kvs) := by
  simp [defaultOf, valStrs, valPairs, strVal, strOfVal, List.map_map, Function.comp_def]

/-- The flag's initial value is the template's; it is what a (hypothetical) visit of an unset flag would see,
and what the first helper occurrence replaces. -/
theorem C12_initial_is_template (v : Int) (x : Bool) (s : String) (xs : List String) (sg : Bool) (bits : Nat) (k : IntKind) :
    accOfVal (.int sg bits k) (.i v) = .i v ∧ accOfVal .bool (.b x) = .b x ∧ accOfVal .str (.s s) = .s s ∧
    accOfVal .strSlice (.list (xs.map strVal)) = .strs xs := by
  simp [accOfVal, valStrs, strVal, strOfVal, List.map_map, Function.comp_def]

/-! ### named complex types (repair D29) -/

/-- the standard-library source registers a user-defined named complex type (`type C complex64`) with
`flaghelper.NewComplex64Var`, whose getter returns a `*complex64`; `Value` assigns it through a pointer conversion
(regenerated fact `flagPtrConvertStd`): the flag yields the parsed value, as with pflag.  (Before repair D29 the
pointer was converted to the named non-pointer type, which panics in reflect.) -/
theorem C12_named_complex_std_ok (toks : TokTable) (h : Hdr) (name : String) (d : Val) (o : Occ) (c : String) (ho : o.name = name) (hc : o.ext = .ok c) :
    flagResult .std toks { hdr := h, ty := .ptr (.basic .c64 true), name := name, route := routeOf .std (.ptr (.basic .c64 true)), dflt := d } [o] = .ok (some (.s c)) := by
  have hroute : routeOf .std (.ptr (.basic .c64 true)) = .ext "flaghelper.NewComplex64Var" := by decide
  have hocc : occsOf name [o] = [o] := by simp [occsOf, ho]
  have hfact : Facts.flagPtrConvertStd = true := by decide
  simp only [flagResult, hroute, hocc, runFlag_single, setOne, hc]
  simp [getterMismatch, hfact]
  rfl

/-- pflag keeps its own pointer of the field's type: the same flag yields the parsed value. -/
theorem C12_named_complex_pflag_ok (toks : TokTable) (h : Hdr) (name : String) (d : Val) (o : Occ) (c : String) (ho : o.name = name) (hc : o.ext = .ok c) :
    flagResult .pflag toks { hdr := h, ty := .ptr (.basic .c64 true), name := name, route := routeOf .pflag (.ptr (.basic .c64 true)), dflt := d } [o] = .ok (some (.s c)) := by
  have hroute : routeOf .pflag (.ptr (.basic .c64 true)) = .ext "flaghelper.NewComplex64Var" := by decide
  have hocc : occsOf name [o] = [o] := by simp [occsOf, ho]
  simp only [flagResult, hroute, hocc, runFlag_single, setOne, hc]
  rfl

/-! ### non-vacuity: the model computes what the statements talk about (kernel-evaluated) -/

-- scalars: the last occurrence wins; the std source narrows afterwards under the guard, pflag parses with 8 bits
example : runFlag (fun _ => ([], [])) (.int true 64 .i8) ⟨.i 3, true⟩ [⟨"f", "300", .ok ""⟩, ⟨"f", "5", .ok ""⟩] = .ok ⟨.i 5, false⟩ := by decide
example : runFlag (fun _ => ([], [])) (.int true 64 .i8) ⟨.i 3, true⟩ [⟨"f", "5", .ok ""⟩, ⟨"f", "300", .ok ""⟩] = .ok ⟨.i 300, false⟩ ∧
    finish true (.int true 64 .i8) (.i 300) = .err "overflow" ∧ finish false (.int true 64 .i8) (.i 300) = .ok (.i 44) :=
  ⟨by decide, rfl, rfl⟩
example : setOne (fun _ => ([], [])) (.int true 8 .i8) ⟨.i 3, true⟩ ⟨"f", "300", .ok ""⟩ = .err "number" := by decide
example : runFlag exampleToks .strSlice ⟨.strs ["def"], true⟩ [⟨"f", "ab", .ok ""⟩, ⟨"f", "c", .ok ""⟩] = .ok ⟨.strs ["a", "b", "c"], false⟩ := by decide
example : runFlag exampleToks .strSet ⟨.strs ["def"], true⟩ [⟨"f", "ab", .ok ""⟩, ⟨"f", "ab", .ok ""⟩, ⟨"f", "c", .ok ""⟩] = .ok ⟨.strs ["a", "b", "c"], false⟩ := by decide
example : runFlag exampleToks .mapSS ⟨.pairs [("z", "0")], true⟩ [⟨"f", "ab", .ok ""⟩, ⟨"f", "c", .ok ""⟩] = .ok ⟨.pairs [("a", "1"), ("b", "3")], false⟩ := by decide
example : runFlag exampleToks .mapSSlice ⟨.pairs [("z", "0")], true⟩ [⟨"f", "ab", .ok ""⟩, ⟨"f", "c", .ok ""⟩] = .ok ⟨.pairs [("a", "1"), ("b", "2"), ("b", "3")], false⟩ := by decide
example : runFlag exampleToks (.intSlice .u8) ⟨.ints [9], true⟩ [⟨"f", "1, 0x10", .ok ""⟩, ⟨"f", "255", .ok ""⟩] = .ok ⟨.ints [1, 16, 255], false⟩ := by decide
example : ∃ e, runFlag exampleToks (.intSlice .u8) ⟨.ints [9], true⟩ [⟨"f", "1", .ok ""⟩, ⟨"f", "256", .ok ""⟩] = .err e := ⟨"element", by decide⟩
example : unionStrs ["a", "b"] ["b", "c"] = ["a", "b", "c"] := by decide
example : mergePairs [("a", "1"), ("b", "2")] [("b", "3")] = [("a", "1"), ("b", "3")] := by decide
example : mkname .std ⟨"F", [("dials", "x"), ("dialsflag", "y")], false⟩ = .ok "y" := by decide
example : mkname .pflag ⟨"F", [("dials", "x"), ("dialsflag", "y")], false⟩ = .ok "x" := by decide
example : ∃ e, mkname .std ⟨"F", [], false⟩ = .panic e := ⟨_, rfl⟩

-- flagResult: only the flag's own occurrences count; an out-of-range last occurrence is an error, never a wrapped value
example : (match flagResult .std (fun _ => ([], [])) ⟨⟨"F", [], false⟩, .ptr (.basic (.int .i8) false), "f", .int true 64 .i8, .i 3⟩
      [⟨"f", "5", .ok ""⟩, ⟨"g", "7", .ok ""⟩, ⟨"f", "300", .ok ""⟩] with
    | .err c => c == "overflow"
    | _ => false) = true := by decide
example : (match flagResult .std (fun _ => ([], [])) ⟨⟨"F", [], false⟩, .ptr (.basic (.int .i8) false), "f", .int true 64 .i8, .i 3⟩
      [⟨"f", "300", .ok ""⟩, ⟨"g", "7", .ok ""⟩, ⟨"f", "-0x80", .ok ""⟩] with
    | .ok (some (.i v)) => v == -128
    | _ => false) = true := by decide
example : (match flagResult .pflag (fun _ => ([], [])) ⟨⟨"F", [], false⟩, .ptr (.basic (.int .i8) false), "f", .int true 8 .i8, .i 3⟩
      [⟨"f", "300", .ok ""⟩] with
    | .err c => c == "number"
    | _ => false) = true := by decide
example : (match flagResult .std (fun _ => ([], [])) ⟨⟨"F", [], false⟩, .ptr (.basic (.int .i8) false), "f", .int true 64 .i8, .i 3⟩
      [⟨"g", "7", .ok ""⟩] with
    | .ok none => true
    | _ => false) = true := by decide

-- flatten: nested names are the kebab-case joins along the path; every output carries `dials` and `dialsfieldpath`
example : pathNames ⟨"dials", .upperCamel, .kebab⟩ 6 []
    [(⟨"Outer", [], false⟩, .ptr (.struct (.cons "InnerField" [] false (.ptr (.basic .str false))
        (.cons "B" [("dials", "given_name")] false (.ptr (.basic .bool false)) .nil))))] =
    some ["outer-inner-field", "outer-given_name"] := by decide
example : ((flattenStruct ⟨"dials", .upperCamel, .kebab⟩ 6 [] [] []
    [(⟨"Outer", [], false⟩, .ptr (.struct (.cons "InnerField" [] false (.ptr (.basic .str false))
        (.cons "B" [("dials", "given_name")] false (.ptr (.basic .bool false)) .nil))))]).toOption.map (·.map (·.1))) =
    some [⟨"OuterInnerField", [("dials", "outer-inner-field"), ("dialsfieldpath", "Outer,InnerField")], false⟩,
          ⟨"OuterB", [("dials", "outer-given_name"), ("dialsfieldpath", "Outer,B")], false⟩] := by decide

end Dials.C12
