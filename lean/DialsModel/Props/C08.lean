/-
C08 — No deadlock, crash or leak in any interleaving; clean shutdown.

What the model can carry: every parked goroutine always has an enabled step (no library wait without
an exit), the monitor's progress never depends on the callback goroutine (a callback that blocks
forever does not stop installs), both goroutines run to completion once the Config context is
cancelled or every watcher is done, and API calls made after shutdown fail instead of panicking
or blocking past their context.  Real goroutine exit and scheduler fairness are runtime facts
checked by the correspondence harness (goroutine dumps), not provable here.
-/
import DialsModel.Model.RuntimeSpec
import DialsModel.Lemmas.RuntimeProgress

namespace Dials.C08
open Dials Dials.Runtime

/-- run the monitor `n` times, always taking select choice 0 -/
def monSteps (W : World) : Nat → State → Option State
  | 0, s => some s
  | n + 1, s => (step W s (.runMon 0)).bind (monSteps W n)

/-- run the callback goroutine `n` times -/
def cbSteps (W : World) : Nat → State → Option State
  | 0, s => some s
  | n + 1, s => (step W s .runCb).bind (cbSteps W n)

/-- A parked monitor can always take a step: no monitor step waits for another goroutine
(replies and callback events never block; at the top of the loop it blocks only in its select). -/
theorem C08_monitor_step_enabled (W : World) (s : State) (hm : s.mon ≠ .sel ∧ s.mon ≠ .finished) :
    ∃ s', step W s (.runMon 0) = some s' :=
  let ⟨s', h⟩ := MonStep.enabled W hm
  ⟨s', h.run⟩

/-- The callback goroutine, when parked, can always take a step. -/
theorem C08_cb_step_enabled {W : World} {P : Params} {sl : Slots} {w : List Bool} {s : State}
    (hr : Reachable W P sl w s) (hc : s.cb ≠ .sel ∧ s.cb ≠ .finished) : ∃ s', step W s .runCb = some s' := by
  have hi := CbInv_reachable hr
  cases h : s.cb with
  | top =>
    cases hq : s.cbch with
    | nil => exact ⟨_, (CbStep.idle h hq).run⟩
    | cons ev rest => exact ⟨_, (CbStep.deq ev rest h hq).run⟩
  | sel => exact absurd h hc.1
  | got ev =>
    cases hcs : cbCalls s ev with
    | nil => exact ⟨_, (CbStep.skip ev h hcs).run⟩
    | cons c cs => exact ⟨_, (CbStep.call ev c cs h hcs).run⟩
  | calls cs ev =>
    match cs, h with
    | [], h => exact absurd h (hi.1 ev)
    | [c], h => exact ⟨_, (CbStep.last c ev h).run⟩
    | c0 :: c :: cs, h => exact ⟨_, (CbStep.next c0 c cs ev h).run⟩
  | exit => exact ⟨_, (CbStep.exit h).run⟩
  | finished => exact absurd h hc.2

/-- A client that is ready to make its call can always make it (it may then block, never crash). -/
theorem C08_client_step_enabled (W : World) (s : State) (c : Nat) (op : Op) (ctx : Nat)
    (hc : getC s.clients c = .ready op ctx) : ∃ s', step W s (.runClient c 0) = some s' := by
  cases op with
  | view => exact ⟨_, (ClStep.view ctx hc).run⟩
  | events =>
    cases he : s.events with
    | none => exact ⟨_, (ClStep.noEvent ctx hc he).run⟩
    | some v => exact ⟨_, (ClStep.recv ctx v hc he).run⟩
  | report src v blocking => exact ⟨_, (ClStep.report src v blocking ctx hc).run⟩
  | reportErr src e => exact ⟨_, (ClStep.reportErr src e ctx hc).run⟩
  | done src => exact ⟨_, (ClStep.done src ctx hc).run⟩
  | register h ser cfg => exact ⟨_, (ClStep.register h ser cfg ctx hc).run⟩
  | unregister h => exact ⟨_, (ClStep.unregister h ctx hc).run⟩
  | enable =>
    cases hd : s.P.delay with
    | false => exact ⟨_, (ClStep.enableNow ctx hc hd).run⟩
    | true => exact ⟨_, (ClStep.enable ctx hc hd).run⟩

/-- A monitor step never looks at what the callback goroutine is doing beyond whether its queue has
room: a callback that never returns (the callback goroutine parked inside `calls`) cannot stop a
pending good update from being installed and viewed.  Concretely: from a state where the monitor
waits in its select and a reporter offers a value whose stack is good, at most three monitor steps
install it, whatever the callback goroutine's state is, and without touching it. -/
theorem C08_install_despite_blocked_cb (W : World) (s : State) (c src v ctx : Nat) (blocking : Bool)
    (hm : s.mon = .sel) (hc : getC s.clients c = .ready (.report src v blocking) ctx)
    (hctx : s.isCancelled ctx = false)
    (hs : W.stackOk (setSlot s.slots src v) = true)
    (hv : s.skipVerify = true ∨ W.valid (setSlot s.slots src v) = true) :
    ∃ n s1 s2, n ≤ 3 ∧ step W s (.runClient c 0) = some s1 ∧ monSteps W n s1 = some s2 ∧
      s2.view = ⟨Facts.nextSerial s.view.serial, setSlot s.slots src v⟩ ∧
      s1.cb = s.cb ∧ s2.cb = s.cb ∧ s2.cbch = s.cbch := by
  have hms := iterStep_unique W (.runMon 0) (monSteps W) (fun _ => rfl) (fun _ _ => rfl)
  have e1 : step W s (.runClient c 0) =
      some (monTake (s.setClient c (.sendW (.value src v (if blocking then some c else none)) ctx))
        (.msg c (.value src v (if blocking then some c else none)))) := by
    simp only [step, runClient, hc, offerW, hm, hctx]
    rfl
  obtain ⟨m1, c1, q1, sl1, v1, sk1⟩ :=
    monTake_value (s.setClient c (.sendW (.value src v (if blocking then some c else none)) ctx)) c src v
      (if blocking then some c else none)
  simp only [setClient_cb, setClient_cbch, setClient_slots, setClient_view, setClient_skipVerify] at c1 q1 sl1 v1 sk1
  obtain ⟨n, s2, hn, e2, hv2, hc2, hq2⟩ := install_chain W _ src v _ m1 (by rw [sl1]; exact hs)
    (by rw [sl1, sk1]; exact hv)
  refine ⟨n, _, s2, hn, e1, by rw [hms]; exact e2, ?_, c1, ?_, ?_⟩
  · rw [hv2, v1, sl1]
  · rw [hc2, c1]
  · rw [hq2, q1]

/-- Shutdown of the monitor: once the Config context is cancelled, a monitor that is between updates
exits within two steps and signals monDone. -/
theorem C08_monitor_exits_on_cancel (W : World) (s : State) (hm : s.mon = .top ∨ s.mon = .sel) :
    ∃ n s', n ≤ 2 ∧ monSteps W n (cancelCtx s 0) = some s' ∧ s'.mon = .finished ∧ s'.monDone = true := by
  rcases hm with hm | hm
  · have h1 : (cancelCtx s 0).mon = .top := by rw [cancelCtx_mon, hm]; rfl
    have h2 := cancelCtx_isCancelled s 0
    have h3 : ∃ rest, readyIns (cancelCtx s 0) = MonIn.ctx :: rest := by
      simp only [readyIns, h2]; exact ⟨_, rfl⟩
    obtain ⟨rest, h3⟩ := h3
    obtain ⟨t', e, hf, hd⟩ := runMon_exit_ok W { cancelCtx s 0 with mon := .exit } 0 rfl
    refine ⟨2, t', Nat.le_refl _, ?_, hf, hd⟩
    have e1 : step W (cancelCtx s 0) (.runMon 0) = some { cancelCtx s 0 with mon := .exit } := by
      simp only [step, runMon, h1, h3]; rfl
    have e2 : step W { cancelCtx s 0 with mon := .exit } (.runMon 0) = some t' := e
    simp only [monSteps, e1, e2, Option.bind_some]
  · have h1 : (cancelCtx s 0).mon = .exit := by rw [cancelCtx_mon, hm]; rfl
    obtain ⟨t', e, hf, hd⟩ := runMon_exit_ok W _ 0 h1
    refine ⟨1, t', by omega, ?_, hf, hd⟩
    simp only [monSteps, step, e]; rfl

/-- … and from any monitor pc it is back at the top of its loop (or has exited) within eight steps. -/
theorem C08_monitor_returns_to_top (W : World) (s : State) (hm : s.mon ≠ .sel ∧ s.mon ≠ .finished)
    (hnoin : readyIns s = []) :
    ∃ n s', n ≤ 8 ∧ monSteps W n s = some s' ∧ (s'.mon = .sel ∨ s'.mon = .finished) := by
  have _ := hm
  have hms := iterStep_unique W (.runMon 0) (monSteps W) (fun _ => rfl) (fun _ _ => rfl)
  obtain ⟨k, s', hk, e, hfin⟩ := mon_returns W 7 s (monRank_le _) (NoIn_of_readyIns hnoin)
  exact ⟨k, s', by omega, by rw [hms]; exact e, hfin⟩

/-- When the last watching source calls Done the monitor exits. -/
theorem C08_monitor_exits_when_all_done (W : World) (s s' : State) (src : Nat)
    (hm : s.mon = .gotDone src) (hall : (setFalse s.watching src).any id = false)
    (h : step W s (.runMon 0) = some s') : s'.mon = .exit := by
  simp only [step, runMon, hm, hall] at h
  simp at h
  rw [← h]

/-- Shutdown of the callback goroutine: after monDone, if callbacks return, it drains its queue and
exits; `cbFuel` steps suffice. -/
def cbFuel (s : State) : Nat :=
  (s.cbch.length + 1) * (s.handles.length + s.cbch.length + 4) + 4 +
    (match s.cb with | .calls cs _ => cs.length | _ => 0)

theorem C08_cb_exits_after_mon_done {W : World} {P : Params} {sl : Slots} {w : List Bool} {s : State}
    (hr : Reachable W P sl w s) (hd : s.monDone = true) (hq : ∀ p ∈ s.clients, ∀ ev ctx, p.2 ≠ .sendCb ev ctx) :
    ∃ n s', n ≤ cbFuel s ∧ cbSteps W n s = some s' ∧ s'.cb = .finished := by
  have hcs := iterStep_unique W .runCb (cbSteps W) (fun _ => rfl) (fun _ _ => rfl)
  have hdr : Drain s := ⟨hd, fun p hp ev ctx => hq p hp ev ctx⟩
  obtain ⟨n, s', hn, e, hfin⟩ := cb_exits W s (CbInv_reachable hr) hdr
  exact ⟨n, s', hn, by rw [hcs]; exact e, hfin⟩

/-- API calls after shutdown: register and unregister (also a second time) fail at once instead of
panicking. -/
theorem C08_late_register_unregister (W : World) (s : State) (c ctx : Nat) (op : Op)
    (hd : s.monDone = true) (hc : getC s.clients c = .ready op ctx)
    (hop : (∃ h ser cfg, op = .register h ser cfg) ∨ (∃ h, op = .unregister h)) :
    ∃ s', step W s (.runClient c 0) = some s' ∧
      (getC s'.clients c = .returned .regFail ∨ getC s'.clients c = .returned .unregFalse) ∧
      s'.cbch = s.cbch ∧ s'.handles = s.handles := by
  rcases hop with ⟨h, ser, cfg, rfl⟩ | ⟨h, rfl⟩
  · refine ⟨s.ret c .regFail, ?_, Or.inl ?_, rfl, rfl⟩
    · simp only [step, runClient, hc, offerCb, hd, if_true]
    · simp only [ret_clients, getC_setC_self]
  · refine ⟨s.ret c .unregFalse, ?_, Or.inr ?_, rfl, rfl⟩
    · simp only [step, runClient, hc, offerCb, hd, if_true]
    · simp only [ret_clients, getC_setC_self]

/-- Every blocked API call returns a failure indication when its context ends. -/
theorem C08_blocked_returns_on_ctx (s : State) (c ctx : Nat)
    (hc : ∃ st, getC s.clients c = st ∧ (st = .waitReply ctx ∨ st = .waitDone ctx ∨ st = .sendCtl ctx ∨ st = .waitResp ctx ∨
      (∃ m, st = .sendW m ctx) ∨ (∃ ev, st = .sendCb ev ctx))) :
    ∃ r, getC (cancelCtx s ctx).clients c = .returned r ∧ (r = .ctxErr ∨ r = .regFail ∨ r = .unregFalse) := by
  obtain ⟨st, hst, hcases⟩ := hc
  have hne : getC s.clients c ≠ .idle := by
    rw [hst]
    rcases hcases with h | h | h | h | ⟨m, h⟩ | ⟨ev, h⟩ <;> rw [h] <;> exact fun e => CSt.noConfusion e
  rw [cancelCtx_clients, getC_map_of_ne_idle _ (wake_fst ctx) _ _ hne, hst]
  rcases hcases with h | h | h | h | ⟨m, h⟩ | ⟨ev, h⟩ <;> subst h
  · exact ⟨.ctxErr, by simp [wake], Or.inl rfl⟩
  · exact ⟨.unregFalse, by simp [wake], Or.inr (Or.inr rfl)⟩
  · exact ⟨.ctxErr, by simp [wake], Or.inl rfl⟩
  · exact ⟨.ctxErr, by simp [wake], Or.inl rfl⟩
  · exact ⟨.ctxErr, by simp [wake], Or.inl rfl⟩
  · cases ev with
    | unreg h c' tok => exact ⟨.unregFalse, by simp [wake], Or.inr (Or.inr rfl)⟩
    | newCfg a b d => exact ⟨.regFail, by simp [wake], Or.inr (Or.inl rfl)⟩
    | watchErr a b d => exact ⟨.regFail, by simp [wake], Or.inr (Or.inl rfl)⟩
    | reg a b d => exact ⟨.regFail, by simp [wake], Or.inr (Or.inl rfl)⟩

/-- When the monitor exits, everyone waiting on the callback queue or on an unregistration is
released with a failure, and the callback goroutine is told to finish. -/
theorem C08_exit_releases_waiters (W : World) (s s' : State) (hm : s.mon = .exit)
    (h : step W s (.runMon 0) = some s') :
    s'.monDone = true ∧ s'.mon = .finished ∧
    (∀ p ∈ s'.clients, ∀ ev ctx, p.2 ≠ .sendCb ev ctx ∧ p.2 ≠ .waitDone ctx) ∧ (s.cb = .sel → s'.cb = .exit) := by
  simp only [step, runMon, hm, Option.some.injEq] at h
  subst h
  refine ⟨rfl, rfl, ?_, ?_⟩
  · intro p hp ev ctx
    simp only [logAdd_clients, List.mem_map] at hp
    obtain ⟨q, _, rfl⟩ := hp
    split <;> simp_all
  · intro hcb
    simp only [logAdd_cb, hcb]

/-- F6e: the stacking-error branch of the monitor's update handling cannot panic on the nil interface that
`compose` returns next to its error (every type assertion there has the two-value form).  The model's `.gotValue`
step goes from a failed stack straight to the submission of the error event; this is the part of that step the
model does not exhibit. -/
theorem C08_stack_error_branch_cannot_panic : Facts.stackErrAssertCommaOk = true := by
  decide

/-- F6s: `C08_monitor_step_enabled` holds because every event the monitor hands to the callback goroutine goes
through the model's `trySubmit`, a step that is enabled whatever the queue holds.  This is its regenerated tie: on the
monitor goroutine (`monitor`, `updateSourceValue`) the code submits through `submitEvent` at the model's four
submission steps (stacking error, verification error, new config, source error), never through
`submitEventBlocking` or a bare send, and `submitEvent`'s send sits in a `select` with a `default` case. -/
theorem C08_monitor_submissions_never_wait :
    Facts.monitorSubmits = 4 ∧ Facts.monitorBlockingSubmits = 0 ∧ Facts.submitEventHasDefault = true := by
  decide

/-- regenerated capacities (F3) -/
theorem C08_capacities : Facts.capCbch = 64 ∧ Facts.capMonCtl = 3 ∧ Facts.capEvents = 1 := by
  decide

/-- regenerated fact F3c: the model has no "close the callback queue" step - a send by a client (register, unregister)
can therefore never hit a closed channel in it.  The code matches: the queue has several senders and is closed nowhere;
the monitor announces its exit by closing `monDone`, once. -/
theorem C08_callback_queue_is_never_closed : Facts.callbackQueueCloses = 0 ∧ Facts.monDoneCloses = 1 := ⟨rfl, rfl⟩

/-- regenerated fact F4u (repaired defect P20): the model identifies a report's slot by its index; the code does it by
comparing Source values, which is only total - and never a crash of the monitor - because Config lets a pointer stand in
for every source of an uncomparable type before the source is stored and watched. -/
theorem C08_slots_are_comparable : Facts.uncomparableSourcesWrapped = true := rfl

end Dials.C08
